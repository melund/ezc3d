import Ezc3dVerif.Basic.Core
import Ezc3dVerif.Model.Api
import Ezc3dVerif.Model.Codec
import Ezc3dVerif.Model.Containers
import Ezc3dVerif.Model.Heap
import Ezc3dVerif.Model.Names
import Ezc3dVerif.Model.Read
import Ezc3dVerif.Model.SaveIO
import Ezc3dVerif.Model.Standalone
import Ezc3dVerif.Model.Types
import Ezc3dVerif.Model.Write
import Ezc3dVerif.Spec.Assemble
import Ezc3dVerif.Spec.Format
import Ezc3dVerif.Proofs.AnyOrder
import Ezc3dVerif.Proofs.Assemble
import Ezc3dVerif.Proofs.ByName
import Ezc3dVerif.Proofs.Codec
import Ezc3dVerif.Proofs.Fields
import Ezc3dVerif.Proofs.Guarded
import Ezc3dVerif.Proofs.HeaderRT
import Ezc3dVerif.Proofs.Heap
import Ezc3dVerif.Proofs.InsertLookup
import Ezc3dVerif.Proofs.Layout
import Ezc3dVerif.Proofs.LoadTotal
import Ezc3dVerif.Proofs.LoadWF
import Ezc3dVerif.Proofs.LoadWrite
import Ezc3dVerif.Proofs.LoadWriteDec
import Ezc3dVerif.Proofs.Lookup
import Ezc3dVerif.Proofs.Mand
import Ezc3dVerif.Proofs.NoUB
import Ezc3dVerif.Proofs.Outcome
import Ezc3dVerif.Proofs.ParamRT
import Ezc3dVerif.Proofs.ParamRead
import Ezc3dVerif.Proofs.PatchRT
import Ezc3dVerif.Proofs.Post
import Ezc3dVerif.Proofs.Progress
import Ezc3dVerif.Proofs.ReadAppend
import Ezc3dVerif.Proofs.RecordsRT
import Ezc3dVerif.Proofs.Resave
import Ezc3dVerif.Proofs.SizeCheck
import Ezc3dVerif.Proofs.SpecBasics
import Ezc3dVerif.Proofs.SpecData
import Ezc3dVerif.Proofs.SpecFrames
import Ezc3dVerif.Proofs.SpecHeader
import Ezc3dVerif.Proofs.SpecLayout
import Ezc3dVerif.Proofs.SpecRecords
import Ezc3dVerif.Proofs.Updaters
import Ezc3dVerif.Proofs.WriteCongr
import Ezc3dVerif.Properties.C01
import Ezc3dVerif.Properties.C02
import Ezc3dVerif.Properties.C02b
import Ezc3dVerif.Properties.C02c
import Ezc3dVerif.Properties.C03
import Ezc3dVerif.Properties.C03b
import Ezc3dVerif.Properties.C04
import Ezc3dVerif.Properties.C05
import Ezc3dVerif.Properties.C05b
import Ezc3dVerif.Properties.C06
import Ezc3dVerif.Properties.C07
import Ezc3dVerif.Properties.C07b
import Ezc3dVerif.Properties.C08
import Ezc3dVerif.Properties.C08b
import Ezc3dVerif.Properties.C09
import Ezc3dVerif.Properties.C09b
import Ezc3dVerif.Properties.C09c
import Ezc3dVerif.Properties.C09d
import Ezc3dVerif.Properties.C10
import Ezc3dVerif.Properties.C10b
import Ezc3dVerif.Properties.C11
import Ezc3dVerif.Properties.C11b
import Ezc3dVerif.Properties.C12
import Ezc3dVerif.Properties.C13
import Ezc3dVerif.Properties.C13b
import Ezc3dVerif.Properties.C14
import Ezc3dVerif.Properties.C14b
import Ezc3dVerif.Properties.C15
import Ezc3dVerif.Properties.C15b
import Ezc3dVerif.Properties.C16
import Ezc3dVerif.Properties.C17
import Ezc3dVerif.Properties.C18
import Ezc3dVerif.Properties.C19
