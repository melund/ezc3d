import Ezc3dVerif.Proofs.Layout
import Ezc3dVerif.Proofs.PatchRT
/-
  `C3D.load` on the bytes `C3D.write` produced: the writer's file is one of the layouts of `load_layout`
  (no leading zeros, parameters in block 2, no gap, a plain prologue, the records in the writer's order).
-/
namespace Ezc3d
open C12 N

/-- `nb` and `gs` come with their defining equations so that the statement names each once; a caller passes `_ _` and `rfl rfl`.
    The file is spelt in the very form of `load_layout` and `spec_decode_layout` at `Z = 0`, `gap = []` (hence
    `List.replicate 0 0 ++` and `++ [] ++`): rewriting with it leaves a goal either of them closes. -/
theorem write_layout (s : C3D) (b ps : Bytes) (nb : Nat) (gs : List Group)
    (hps : writeParamSection s.ph s.groups 512 = .ok ps) (hb : s.write = .ok b) (hhdr : HdrOK s.hdr)
    (hgok : ∀ g ∈ s.groups, g.name ≠ [] → GroupRecsOK g)
    (hgd : (s.groups.map fun g => g.name).Pairwise (· ≠ ·)) (hglen : s.groups.length ≤ 127)
    (hnb : nb = ps.length / 512) (hgs : gs = s.groups.map (setDSg (((nb + 2 : Nat) : Int) % 256))) :
    ∃ pad : Bytes, (∀ g ∈ gs, g.name ≠ [] → GroupRecsOK g) ∧ (∀ r ∈ recsOf gs 0, r.Valid) ∧ 1 ≤ nb ∧
      4 + (recsBytes (recsOf gs 0)).length + 1 + pad.length = 512 * nb ∧
      b.length = 512 + 512 * nb + (writeData s.frames).length ∧
      b = List.replicate 0 0 ++ s.hdr.bytesP 2 (nb + 2) [] ++ [] ++
        (low8N s.ph.start :: 0x50 :: low8N nb :: 84 :: (recsBytes (recsOf gs 0) ++ 0 :: pad)) ++ writeData s.frames := by
  obtain ⟨v, pad, -, -, hv, hsec⟩ := writeParamSection_recs s.ph s.groups ps hgok hgd hglen hps
  obtain ⟨ps', hps', -, hbe, hbl⟩ := C03.file_layout s b hhdr.wf hb
  cases hps.symm.trans hps'
  rw [← hnb] at hv
  subst hv
  rw [← hgs] at hsec
  have hdiv : ps.length = 512 * nb := hnb ▸ (Nat.mul_div_cancel' (Nat.dvd_of_mod_eq_zero hsec.whole_blocks)).symm
  have hl := hsec.length
  rw [hdiv] at hl hbl
  refine ⟨pad, hsec.groups_ok, hsec.valid, by omega, hl.symm, hbl, ?_⟩
  rw [hbe, dataStart_block, ← hnb, ← List.append_nil (s.hdr.write _), Header.write_bytesR s.hdr _ [] hhdr, hsec.bytes, ← hnb]
  simp [Header.bytesP_two]

def C3D.reloaded (s : C3D) (psLen : Nat) (pl al : List Bytes) : C3D :=
  { hdr := s.hdr.loaded (psLen / 512 + 2),
    ph := { start := 1, checksum := 0x50, nbBlocks := psLen / 512, processor := 84 },
    groups := (s.groups.map (setDSg (((psLen / 512 + 2 : Nat) : Int) % 256))).map Group.normG,
    frames := s.frames.map (relabelFrame pl al) }

/-- C01, build -> save -> load: for every object whose header, groups and parameters the format can hold, whose header is already what
    `updateHeader` derives from its parameters, and whose frames have the shape the header announces, loading the bytes `write`
    produced returns the same header (position words aside), the same groups and parameters (names upper-cased, POINT:DATA_START
    holding the block number) and the same frames bit for bit (names taken from the label parameters).
    Beyond the capacities of the format: `ph.start = 1` because the loader looks for the first record `start - 1` bytes behind the
    prologue, and the writer puts it right there; `scale < 0` because the loader refuses integer-format data; `frames.length ≤ 65536`
    is a round figure below `maxFrames`; `pl` and `al` are not free, `hpl` and `hal` fix them as the labels of the reloaded object. -/
theorem load_write (F : FloatOps) (s : C3D) (b ps : Bytes) (pl al : List Bytes)
    (hps : writeParamSection s.ph s.groups 512 = .ok ps) (hb : s.write = .ok b)
    (hhdr : HdrOK s.hdr) (hstart : s.ph.start = 1)
    (hgn : ∀ g ∈ s.groups, g.name ≠ []) (hgok : ∀ g ∈ s.groups, GroupRecsOK g)
    (hgd : (s.groups.map fun g => g.name).Pairwise (· ≠ ·)) (hglen : s.groups.length ≤ 127)
    (hblocks : ps.length / 512 < 256) (hsmall : b.length + 2 < two31)
    (hstable : updateHeaderH F (s.reloaded ps.length pl al).groups [] (s.reloaded ps.length pl al).hdr = .ok (s.reloaded ps.length pl al).hdr)
    (hnf : s.hdr.nbFrames = s.frames.length) (hnfs : s.frames.length ≤ 65536)
    (hpl : (if s.hdr.nbPoints > 0 then strsOf (s.reloaded ps.length pl al).groups POINT LABELS else .ok []) = .ok pl)
    (hal : (if s.hdr.nbAnalogs > 0 then strsOf (s.reloaded ps.length pl al).groups ANALOG LABELS else .ok []) = .ok al)
    (hscale : s.hdr.scale < 0) (hna : s.hdr.nbAnalogs < 65536)
    (hshape : ∀ f ∈ s.frames, f.hasShape s.hdr.nbPoints s.hdr.nbAnalogByFrame s.hdr.nbAnalogs) :
    C3D.load F b = .ok (s.reloaded ps.length pl al) := by
  obtain ⟨pad, hgs_ok, hval, hnb1, hseclen, hbl, hfile⟩ :=
    write_layout s b ps _ _ hps hb hhdr (fun g hg _ => hgok g hg) hgd hglen rfl rfl
  have hnamed : ∀ g ∈ s.groups.map (setDSg (((ps.length / 512 + 2 : Nat) : Int) % 256)), g.name ≠ [] :=
    List.forall_mem_map.mpr fun g hg => (setDSg_name _ g).symm ▸ hgn g hg
  have htab : (recsOf (s.groups.map (setDSg (((ps.length / 512 + 2 : Nat) : Int) % 256))) 0).foldl applyRec []
      = (s.reloaded ps.length pl al).groups := by
    rw [foldl_applyRec_recsOf _ 0 [] (Nat.le_refl _) (fun g hg hn => (hgs_ok g hg hn).distinct), readBack_named _ 0 [] hnamed rfl]
    rfl
  rw [hfile, hstart]
  refine (Ezc3d.load_layout F s.hdr 0 2 (ps.length / 512 + 2) (ps.length / 512) false [] pad _ s.frames pl al hhdr
    (Nat.lt_trans (Nat.add_lt_add_right hblocks 2) (by decide))
    (Nat.le_refl _) (by decide) hnb1 hblocks rfl hval hseclen (by rw [List.length_nil, Nat.zero_add, Nat.add_zero, ← hbl]; exact hsmall)
    (htab ▸ hstable) hnf hnfs (htab ▸ hpl) (htab ▸ hal) hscale hna hshape).trans ?_
  rw [htab, Header.loadedAt_zero_two]
  rfl

end Ezc3d
