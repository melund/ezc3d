import Ezc3dVerif.Proofs.SpecData
import Ezc3dVerif.Proofs.HeaderRT
import Ezc3dVerif.Proofs.ReadAppend
/-
  The independent decoder (Spec/Format.lean) on the data section the writer produced: `frames` frames of
  4 words per point followed by sub-frame major analog words. It returns `frames.map specFrame` (defined here).
-/
namespace Ezc3d
open C12 N Spec

/-- a point and a frame as the decoder returns them: the words of the data section; names are not stored there -/
def specPoint (p : Point) : SPoint := ⟨p.x, p.y, p.z, p.r⟩
def specFrame (f : Frame) : SFrame := { points := f.pts.map specPoint, analogs := f.subs.map fun sf => sf.map (·.v) }

def pointWords (p : Point) : List UInt32 := [p.x, p.y, p.z, p.r]

theorem takeWords_f32 (ws : List UInt32) (rest : Bytes) :
    takeWords ws.length ((ws.map f32le).flatten ++ rest) = some (ws, rest) := by
  induction ws with
  | nil => rfl
  | cons w t ih =>
    simp only [List.length_cons, List.map_cons, List.flatten_cons, f32le, List.cons_append, List.nil_append, takeWords, ih,
      Option.map_some]
    exact congrArg (fun x => some (x :: t, rest)) (f32_roundtrip w)

theorem pts_bytes_words (pts : List Point) : (pts.map Point.write).flatten = (((pts.map pointWords).flatten).map f32le).flatten := by
  induction pts with
  | nil => rfl
  | cons p t ih =>
    simp only [List.map_cons, List.flatten_cons, List.map_append, List.flatten_append, ih]
    simp [Point.write, pointWords]

theorem subs_bytes_words (subs : List (List Channel)) :
    (subs.map SubFrame.bytes).flatten = (((subs.map fun sf => sf.map (·.v)).flatten).map f32le).flatten := by
  induction subs with
  | nil => rfl
  | cons sf t ih =>
    simp only [List.map_cons, List.flatten_cons, List.map_append, List.flatten_append, ih]
    congr 1
    simp [SubFrame.bytes, List.map_map, Function.comp_def]

theorem toPoints_words (pts : List Point) : toPoints ((pts.map pointWords).flatten) = pts.map specPoint := by
  induction pts with
  | nil => rfl
  | cons p t ih =>
    simp only [List.map_cons, List.flatten_cons, pointWords, List.cons_append, List.nil_append, toPoints, ih]
    rfl

theorem splitEvery_flatten (nch : Nat) (l : List (List UInt32)) (h : ∀ x ∈ l, x.length = nch) :
    splitEvery nch l.length l.flatten = l := by
  induction l with
  | nil => rfl
  | cons x t ih =>
    have hx : x.length = nch := h x (by simp)
    simp only [List.length_cons, List.flatten_cons, splitEvery]
    rw [← hx, List.take_left, List.drop_left, hx, ih (fun y hy => h y (by simp [hy]))]

theorem decodeFrame_written (np nsf nch : Nat) (f : Frame) (rest : Bytes) (hs : f.hasShape np nsf nch) :
    decodeFrame (f.write ++ rest) np nsf nch = some (specFrame f, rest) := by
  obtain ⟨rfl, rfl, h3⟩ := hs
  have hA : ∀ sf ∈ f.subs, (sf.map (·.v)).length = nch := fun sf hsf => (List.length_map _).trans (h3 sf hsf)
  have e1 := C03.length_flatten_map pointWords 4 f.pts fun _ _ => rfl
  have e2 := C03.length_flatten_map (fun sf : List Channel => sf.map (·.v)) nch f.subs hA
  have e3 := splitEvery_flatten nch _ (List.forall_mem_map.mpr hA)
  rw [List.length_map] at e3
  unfold decodeFrame
  rw [Frame.write_eq, pts_bytes_words, subs_bytes_words, List.append_assoc, ← e1, takeWords_f32]
  simp only
  rw [Nat.mul_comm, ← e2, takeWords_f32]
  simp only
  rw [toPoints_words, e3]
  rfl

theorem decodeFrames_written (np nsf nch : Nat) (frames : List Frame) (rest : Bytes)
    (hs : ∀ f ∈ frames, f.hasShape np nsf nch) :
    decodeFrames np nsf nch frames.length (writeData frames ++ rest) = some (frames.map specFrame, rest) := by
  induction frames with
  | nil => simp [decodeFrames, writeData]
  | cons f t ih =>
    simp only [writeData, List.map_cons, List.flatten_cons, List.append_assoc, List.length_cons, decodeFrames]
    rw [decodeFrame_written np nsf nch f _ (hs f (by simp))]
    simp only
    have := ih (fun g hg => hs g (by simp [hg]))
    simp only [writeData] at this
    rw [this]

/-- frames the header announces to a reader of the format (1-based first/last words) = frames the object counts -/
theorem spec_nframes (h : Header) (n : Nat) (hk : HdrOK h) (hne : ¬ (h.nbPoints = 0 ∧ h.nbAnalogs = 0))
    (hnf : h.nbFrames = n) (hn : n ≤ 65536) :
    (if u64 (h.lastFrame + 1) + 1 ≥ u64 (h.firstFrame + 1) then u64 (h.lastFrame + 1) + 1 - u64 (h.firstFrame + 1) else 0) = n := by
  have hff := hk.ff
  have hlf := hk.lf
  have hf64 : h.firstFrame < two64 := Nat.lt_trans (Nat.lt_succ_self _) hk.ff64
  -- `nbFrames` is `last - first + 1`, the header word is `last + 1`, both in `size_t`: the count is the word minus `first` modulo 2^64
  have key : n = (u64 (h.lastFrame + 1) + (two64 - h.firstFrame)) % two64 := by
    rw [← hnf, Header.nbFrames, if_neg hne, subU64, u64, u64, Nat.mod_eq_of_lt hf64, Nat.mod_add_mod, Nat.mod_add_mod]
    congr 1
    omega
  rw [u64_small _ hk.ff64]
  generalize u64 (h.lastFrame + 1) = L at *
  clear hne hnf
  unfold two64 at *
  split <;> omega

end Ezc3d
