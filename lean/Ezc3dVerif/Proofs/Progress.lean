import Ezc3dVerif.Model.Read
import Ezc3dVerif.Proofs.Codec
/-
  The stream on arbitrary bytes: `read` in closed form (`read_eq`); readers only move forward (`Fwd`), and a read of at least one
  byte from a live stream strictly decreases the measure `mu`. Then the two notions every statement about the loader on arbitrary
  bytes is written in: `RRes.Within` for a result and `SR.Spec` for a composable reading step, with the rules to walk a reader's definition
  once (`Within`: `ok_iff`, `throw`, `nonTermination` for the three forms of a result, `elim` for the match that passes an error on; a
  conditional is split by core's `iteInduction`).
-/
namespace Ezc3d

theorem takePad_eq (n : Nat) (l : Bytes) :
    takePad n l = (l.take n ++ List.replicate (n - l.length) 0, l.drop n, min n l.length) := by
  induction n generalizing l with
  | zero => simp [takePad]
  | succ m ih =>
    cases l with
    | nil => simp [takePad]
    | cons a t => simp [takePad, ih t, Nat.succ_min_succ]

theorem read_eq (s : InStream) (n : Nat) : s.read n =
    if s.failed then (List.replicate n 0, s)
    else if n ≤ s.rest.length then (s.rest.take n, { s with rest := s.rest.drop n, pos := s.pos + n })
    else (s.rest ++ List.replicate (n - s.rest.length) 0,
          { s with rest := [], pos := s.pos + s.rest.length, failed := true, eof := true }) := by
  unfold InStream.read
  rw [takePad_eq]
  split
  · rfl
  · by_cases h : n ≤ s.rest.length
    · simp [h, Nat.min_eq_left h, Nat.sub_eq_zero_of_le h]
    · have h' : s.rest.length ≤ n := Nat.le_of_not_le h
      simp [h, Nat.min_eq_right h', List.take_of_length_le h', Nat.ne_of_lt (Nat.lt_of_not_le h)]

/-- same `len` (what `SR.spec_bind` hands on), no more bytes left, a failure stays (what `mu_le_of_Fwd` rests on) -/
def Fwd (s s' : InStream) : Prop :=
  s'.len = s.len ∧ s'.rest.length ≤ s.rest.length ∧ (s.failed = true → s'.failed = true)

theorem Fwd.refl (s : InStream) : Fwd s s := ⟨rfl, Nat.le_refl _, id⟩
theorem Fwd.trans {a b c : InStream} (h1 : Fwd a b) (h2 : Fwd b c) : Fwd a c :=
  ⟨h2.1.trans h1.1, Nat.le_trans h2.2.1 h1.2.1, fun h => h2.2.2 (h1.2.2 h)⟩

/-- The one is for the read that fails at the end of the file: it consumes nothing more and must still decrease the measure.
    The factor 2 is slack (the unread bytes plus one would decrease as well): `mu` only has to stay below the fuel
    `2 * rest.length + 2` that `readParameters` (Model/Read.lean) gives the record loop (`mu_le`). The zero skip, with fuel
    `rest.length + 1`, is measured by the unread bytes alone (`skipZeros_within`). -/
def mu (s : InStream) : Nat := 2 * s.rest.length + (if s.failed then 0 else 1)

theorem mu_live {s : InStream} (h : s.failed = false) : mu s = 2 * s.rest.length + 1 := by
  unfold mu; rw [h]; rfl
theorem mu_failed {s : InStream} (h : s.failed = true) : mu s = 2 * s.rest.length := by
  unfold mu; rw [if_pos h]; rfl
theorem mu_le (s : InStream) : mu s ≤ 2 * s.rest.length + 1 := by
  cases h : s.failed with
  | false => exact Nat.le_of_eq (mu_live h)
  | true => rw [mu_failed h]; exact Nat.le_succ _

theorem mu_le_of_Fwd {s s' : InStream} (h : Fwd s s') : mu s' ≤ mu s := by
  obtain ⟨_, h1, h2⟩ := h
  cases hf : s.failed with
  | false => rw [mu_live hf]; exact Nat.le_trans (mu_le s') (Nat.succ_le_succ (Nat.mul_le_mul_left 2 h1))
  | true => rw [mu_failed hf, mu_failed (h2 hf)]; exact Nat.mul_le_mul_left 2 h1

theorem Fwd_read (s : InStream) (n : Nat) : Fwd s (s.read n).2 := by
  rw [read_eq]
  split
  · exact Fwd.refl s
  · split
    · exact ⟨rfl, by simp, fun h => h⟩
    · exact ⟨rfl, by simp, fun _ => rfl⟩

theorem Fwd_readMany {α} (f : InStream → α × InStream) (hf : ∀ s, Fwd s (f s).2) (n : Nat) (s : InStream) :
    Fwd s (readMany f n s).2 := by
  induction n generalizing s with
  | zero => exact Fwd.refl s
  | succ m ih => exact Fwd.trans (hf s) (ih (f s).2)

theorem mu_read_lt (s : InStream) (n : Nat) (hn : 1 ≤ n) (hf : s.failed = false) : mu (s.read n).2 < mu s := by
  rw [mu_live hf, read_eq, if_neg (by simp [hf])]
  split
  · rw [mu_live (by exact hf), List.length_drop]; omega
  · rw [mu_failed rfl]; exact Nat.succ_pos _

theorem read_failed (s : InStream) (n : Nat) (hf : s.failed = true) : s.read n = (List.replicate n 0, s) := by
  rw [read_eq, if_pos hf]

theorem read_length (s : InStream) (n : Nat) : (s.read n).1.length = n := by
  rw [read_eq]
  split
  · exact List.length_replicate
  · split
    · rw [List.length_take]; exact Nat.min_eq_left ‹_›
    · rw [List.length_append, List.length_replicate]; exact Nat.add_sub_cancel' (Nat.le_of_not_le ‹_›)

theorem readMany_fst_length {α} (f : InStream → α × InStream) (n : Nat) (s : InStream) : (readMany f n s).1.length = n := by
  induction n generalizing s with
  | zero => rfl
  | succ k ih => simp only [readMany, List.length_cons, ih]

theorem chunks_length (w n : Nat) (b : Bytes) : (chunks w n b).length = n := by
  induction n generalizing b with
  | zero => rfl
  | succ k ih => simp only [chunks, List.length_cons, ih]

theorem readMany_all {α} (f : InStream → α × InStream) (P : α → Prop) (h : ∀ s, P (f s).1) (n : Nat) (s : InStream) :
    ∀ a ∈ (readMany f n s).1, P a := by
  induction n generalizing s with
  | zero => intro a ha; simp [readMany] at ha
  | succ k ih =>
    intro a ha
    simp only [readMany, List.mem_cons] at ha
    rcases ha with rfl | ha
    · exact h s
    · exact ih _ a ha

theorem readUint1_lt (s : InStream) : (s.readUint 1).1 < 256 := by
  have hl := read_length s 1
  show hex2uint (s.read 1).1 < 256
  rw [hex2uint_eq _ (by omega)]
  have := leNat_lt (s.read 1).1
  rwa [hl] at this

theorem remaining_le (s : InStream) : s.remaining ≤ s.len := by
  unfold InStream.remaining
  split
  · exact Nat.zero_le _
  · exact Nat.sub_le _ _

theorem read1_cases (s : InStream) :
    (s.read 1).2.eof = true ∨ (s.failed = true ∧ (s.read 1).2 = s) ∨
    ((s.read 1).2.failed = false ∧ (s.read 1).2.rest.length + 1 = s.rest.length) := by
  rw [read_eq]
  cases hf : s.failed with
  | true => simp
  | false =>
    simp only [Bool.false_eq_true, if_false]
    split
    · exact .inr (.inr ⟨rfl, by rw [List.length_drop]; exact Nat.sub_add_cancel ‹_›⟩)
    · exact .inl rfl

theorem readInt1_live (s : InStream) (h : (s.readInt 1).1 ≠ 0) : s.failed = false := by
  cases hf : s.failed with
  | false => rfl
  | true => exact absurd (by unfold InStream.readInt; rw [read_failed s 1 hf]; exact hex2int_zeros 1) h

theorem seekBeg_len (s : InStream) (off : Int) : (s.seekBeg off).len = s.len := by
  unfold InStream.seekBeg; split
  · rfl
  · split <;> rfl

theorem readUint_len (n : Nat) (s : InStream) : (s.readUint n).2.len = s.len := (Fwd_read s n).1
theorem readInt_len (n : Nat) (s : InStream) : (s.readInt n).2.len = s.len := (Fwd_read s n).1
theorem readFloat_len (s : InStream) : (s.readFloat).2.len = s.len := (Fwd_read s 4).1
theorem readString_len (n : Nat) (s : InStream) : (s.readString n).2.len = s.len := (Fwd_read s n).1
theorem readMany_len {α} (f : InStream → α × InStream) (hf : ∀ s, (f s).2.len = s.len) (n : Nat) (s : InStream) :
    (readMany f n s).2.len = s.len := by
  induction n generalizing s with
  | zero => rfl
  | succ k ih => exact (ih _).trans (hf s)

/-- a value and a stream satisfying `P`, or an exception, or exhausted fuel — that only if `C`; never another `ub` -/
def RRes.Within {α} (P : α → InStream → Prop) (C : Prop) (r : RRes α) : Prop :=
  match r with
  | .ok (a, s') => P a s'
  | .error (.inl _) => True
  | .error (.inr k) => k = .nonTermination ∧ C

namespace RRes.Within
variable {α : Type} {P Q : α → InStream → Prop} {C C' : Prop} {r : RRes α}

theorem ok_iff {a : α} {s' : InStream} : RRes.Within P C (.ok (a, s')) ↔ P a s' := Iff.rfl
theorem ok {a : α} {s' : InStream} (h : r.Within P C) (hr : r = .ok (a, s')) : P a s' :=
  ok_iff.1 (hr ▸ h)
@[elab_as_elim] theorem elim {motive : RRes α → Prop} (h : r.Within P False)
    (error : ∀ e, motive (rthrow e)) (ok : ∀ a s', P a s' → motive (.ok (a, s'))) : motive r :=
  match r, h with
  | .ok (a, s'), h => ok a s' h
  | .error (.inl e), _ => error e
  | .error (.inr _), h => h.2.elim
theorem noUB (h : r.Within P C) (hc : ¬ C) (k : UBKind) : r ≠ .error (.inr k) := by
  intro hr; subst hr; exact hc h.2
theorem imp (h : r.Within P C) (hpq : ∀ a s, P a s → Q a s) (hc : C → C') : r.Within Q C' := by
  unfold RRes.Within at h ⊢
  split
  · exact hpq _ _ h
  · trivial
  · exact ⟨h.1, hc h.2⟩
theorem throw (e : Exc) : (rthrow e : RRes α).Within P C := trivial
theorem nonTermination (h : C) : (rub .nonTermination : RRes α).Within P C := ⟨rfl, h⟩

end RRes.Within

/-- in a file of `L` bytes the step `m` only moves forward and returns a value satisfying `P`, or throws: never `ub` -/
def SR.Spec {α} (L : Nat) (m : SR α) (P : α → Prop) : Prop :=
  ∀ s, s.len = L → (m s).Within (fun a s' => Fwd s s' ∧ P a) False

section
variable {α β : Type} {L : Nat} {P : α → Prop}

theorem SR.spec_pure {a : α} (h : P a) : (SR.pure a).Spec L P := fun s _ => ⟨Fwd.refl s, h⟩
theorem SR.spec_get : SR.get.Spec L fun s => s.len = L := fun s hl => ⟨Fwd.refl s, hl⟩
theorem SR.spec_throw (e : Exc) : (SR.throw e : SR α).Spec L P := fun _ _ => trivial
theorem SR.spec_lift {r : InStream → α × InStream} (hr : ∀ s, Fwd s (r s).2) (h : ∀ s, P (r s).1) : (SR.lift r).Spec L P :=
  fun s _ => ⟨hr s, h s⟩
theorem SR.spec_bind {m : SR α} {f : α → SR β} {Q : α → Prop} {P : β → Prop}
    (hm : m.Spec L Q) (hf : ∀ a, Q a → (f a).Spec L P) : (SR.bind m f).Spec L P := by
  intro s hl
  unfold SR.bind
  refine (hm s hl).elim RRes.Within.throw fun a s1 h => ?_
  exact (hf a h.2 s1 (h.1.1.trans hl)).imp (fun _ _ h' => ⟨h.1.trans h'.1, h'.2⟩) id
theorem SR.spec_ite (c : Prop) [Decidable c] {a b : SR α} (ha : c → a.Spec L P) (hb : ¬ c → b.Spec L P) :
    (if c then a else b).Spec L P := by
  split
  · exact ha ‹_›
  · exact hb ‹_›
theorem SR.spec_mono {m : SR α} {Q : α → Prop} (h : m.Spec L P) (hpq : ∀ a, P a → Q a) : m.Spec L Q :=
  fun s hl => (h s hl).imp (fun _ _ h' => ⟨h'.1, hpq _ h'.2⟩) id

theorem SR.spec_lift_true {r : InStream → α × InStream} (hr : ∀ s, Fwd s (r s).2) : (SR.lift r).Spec L fun _ => True :=
  SR.spec_lift hr fun _ => trivial

end

end Ezc3d
