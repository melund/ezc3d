import Ezc3dVerif.Proofs.LoadWF
import Ezc3dVerif.Proofs.NoUB
/-
  `SR.Clean m`: the reading step `m` never returns `ub` — what `SR.Spec` says when progress and post-condition are forgotten
  (`SR.Spec.clean`); it stands here with its rules as the interface of the predicate, no walk uses it. Then the stages of `C3D.load`
  that read, each never `ub` on any input; with `updateHeader_walk` for the stage between them they give `C16.load_total`.
-/
namespace Ezc3d
open N

def SR.Clean {α} (m : SR α) : Prop := ∀ s k, m s ≠ .error (.inr k)

theorem SR.Spec.clean {α} {m : SR α} {P : Nat → α → Prop} (h : ∀ L, m.Spec L (P L)) : m.Clean :=
  fun s k => (h s.len s rfl).noUB id k

theorem SR.clean_pure {α} (a : α) : (SR.pure a).Clean := SR.Spec.clean (P := fun _ _ => True) fun _ => SR.spec_pure trivial
theorem SR.clean_lift {α} (r : InStream → α × InStream) : (SR.lift r).Clean := by intro s k h; cases h
theorem SR.clean_throw {α} (e : Exc) : (SR.throw e : SR α).Clean := SR.Spec.clean (P := fun _ _ => True) fun _ => SR.spec_throw e
theorem SR.clean_get : SR.get.Clean := SR.Spec.clean fun _ => SR.spec_get
theorem SR.clean_bind {α β} {m : SR α} {f : α → SR β} (hm : m.Clean) (hf : ∀ a, (f a).Clean) : (SR.bind m f).Clean := by
  intro s k h
  unfold SR.bind at h
  split at h
  · exact hf _ _ _ h
  next e he =>
    injection h with h1
    rw [h1] at he
    exact hm s k he
theorem SR.clean_ite {α} (c : Prop) [Decidable c] {a b : SR α} (ha : a.Clean) (hb : b.Clean) : (if c then a else b).Clean := by
  split <;> assumption

theorem readData_noUB (s0 : InStream) (h : Header) (ph : PHeader) (gs : List Group) (k : UBKind) :
    readData s0 h ph gs ≠ .error (.inr k) := by
  refine RRes.Within.noUB (P := fun _ _ => True) (C := False) ?_ id k
  unfold readData
  refine iteInduction (fun _ => RRes.Within.throw _) fun _ => ?_
  have hp := Res.noUB_ite (h.nbPoints > 0) (strsOf_noUB gs POINT LABELS) (Res.noUB_ok [])
  cases hpl : (if h.nbPoints > 0 then strsOf gs POINT LABELS else .ok []) with
  | throw e => exact RRes.Within.throw _
  | ub k' => exact absurd hpl (hp k')
  | ok pl =>
    have ha := Res.noUB_ite (h.nbAnalogs > 0) (strsOf_noUB gs ANALOG LABELS) (Res.noUB_ok [])
    cases hal : (if h.nbAnalogs > 0 then strsOf gs ANALOG LABELS else .ok []) with
    | throw e => exact RRes.Within.throw _
    | ub k' => exact absurd hal (ha k')
    | ok al =>
      refine iteInduction (fun _ => RRes.Within.ok_iff.2 trivial) fun _ => ?_
      refine iteInduction (fun _ => RRes.Within.throw _) fun _ => ?_
      refine iteInduction (fun _ => RRes.Within.throw _) fun _ => ?_
      refine iteInduction (fun _ => RRes.Within.throw _) fun _ => ?_
      exact iteInduction (fun _ => RRes.Within.throw _) fun _ => RRes.Within.ok_iff.2 trivial

/-- a file just opened has not failed, so the zero skip has fuel enough -/
theorem Header_read_noUB (file : Bytes) (k : UBKind) : Header.read (InStream.open_ file) ≠ .error (.inr k) :=
  (Header_read_within _).noUB (by simp [InStream.open_]) k

theorem readParameters_noUB (s : InStream) (h : Header) (k : UBKind) : readParameters s h ≠ .error (.inr k) :=
  (readParameters_within s h).noUB id k

end Ezc3d
