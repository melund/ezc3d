import Ezc3dVerif.Model.Api
/-
  The calculi over the Res / Outcome plumbing of the model: one rule per combinator (`andThen`, `bind`, `lift`; core's `iteInduction` for an
  `ite` of a walk), so that an operation is walked once along its definition. Which one to reach for:
  * to take a known success `h : … = .ok b` apart: the inversion iffs (`…_ok_iff`), one `.mp h` per combinator or all as a `simp only` set;
    `.mpr` builds a success with a given result;
  * an invariant (the state left after a success or a throw): `o.All P`, used through `all_of_ok` / `all_of_throw`; a post-condition (after a
    success only): `o.Ok P`, a bare `∀` used by applying it to the state and the equation;
  * never an undefined access: `NoUB` (`Res.noUB_ite` is for a closed `if` whose branches are both known); an invariant and `NoUB` in one
    walk: `o.AllN P`; these, when the call completes (`∃ b, … = .ok b`) and a post-condition in one walk: `o.Walk I C Q`, with
    `I := fun _ => True` where there is nothing to keep;
  * a throw leaves the object exactly as it was, anything else is a named continuation: `Guarded` (Proofs/Guarded.lean).
-/
namespace Ezc3d

theorem Outcome.lift_ok_iff {o : Outcome α} {f : α → σ} {b : σ} :
    o.lift f = .ok b ↔ ∃ a, o = .ok a ∧ f a = b := by
  cases o <;> simp [Outcome.lift]

theorem Outcome.bind_ok_iff {o : Outcome σ} {k : σ → Outcome σ} {b : σ} :
    o.bind k = .ok b ↔ ∃ a, o = .ok a ∧ k a = .ok b := by
  cases o <;> simp [Outcome.bind]

theorem Outcome.ite_throw_eq_ok_iff {σ} {c : Prop} [Decidable c] {e : Exc} {l b : σ} {o : Outcome σ} :
    (if c then .throw e l else o) = .ok b ↔ ¬ c ∧ o = .ok b := by
  split <;> simp [*]

theorem Res.guard_eq_ok_iff {β} {c : Prop} [Decidable c] {v a : β} {e : Exc} : (if c then Res.ok v else .throw e) = .ok a ↔ c ∧ v = a := by
  by_cases h : c <;> simp [h]

theorem Res.guard_ok_iff {β} {c : Prop} [Decidable c] {v : β} {e : Exc} : (∃ a, (if c then Res.ok v else .throw e) = .ok a) ↔ c :=
  ⟨fun ⟨_, h⟩ => (Res.guard_eq_ok_iff.mp h).1, fun h => ⟨v, if_pos h⟩⟩

theorem Res.andThen_ok_iff {r : Res α} {l : σ} {k : α → Outcome σ} {b : σ} :
    r.andThen l k = .ok b ↔ ∃ a, r = .ok a ∧ k a = .ok b := by
  cases r <;> simp [Res.andThen]

theorem Res.bind_ok_iff {r : Res α} {k : α → Res β} {b : β} :
    r.bind k = .ok b ↔ ∃ a, r = .ok a ∧ k a = .ok b := by
  cases r <;> simp [Res.bind]

/-- says nothing of a `ub` outcome: that there is none is `NoUB`, both together `AllN` -/
def Outcome.All {σ} (P : σ → Prop) : Outcome σ → Prop
  | .ok s => P s
  | .throw _ l => P l
  | .ub _ => True

theorem Outcome.all_ok {σ} {P : σ → Prop} {s : σ} (h : P s) : (Outcome.ok s).All P := h
theorem Outcome.all_throw {σ} {P : σ → Prop} {e : Exc} {s : σ} (h : P s) : (Outcome.throw e s).All P := h

theorem Outcome.all_andThen {α σ} {P : σ → Prop} {r : Res α} {l : σ} {k : α → Outcome σ}
    (hl : P l) (hk : ∀ a, r = .ok a → (k a).All P) : (r.andThen l k).All P := by
  cases r with
  | ok a => exact hk a rfl
  | throw e => exact hl
  | ub u => trivial

theorem Outcome.all_bind {σ} {P Q : σ → Prop} {o : Outcome σ} {k : σ → Outcome σ}
    (ho : o.All Q) (hQ : ∀ a, Q a → P a) (hk : ∀ a, Q a → (k a).All P) : (o.bind k).All P := by
  cases o with
  | ok a => exact hk a ho
  | throw e l => exact hQ l ho
  | ub u => trivial

theorem Outcome.all_lift {α σ} {P : σ → Prop} {Q : α → Prop} {o : Outcome α} {f : α → σ}
    (ho : o.All Q) (hf : ∀ a, Q a → P (f a)) : (o.lift f).All P := by
  cases o with
  | ok a => exact hf a ho
  | throw e l => exact hf l ho
  | ub u => trivial

theorem Outcome.all_mono {σ} {P Q : σ → Prop} {o : Outcome σ} (h : o.All P) (hPQ : ∀ s, P s → Q s) : o.All Q := by
  cases o with
  | ok a => exact hPQ a h
  | throw e l => exact hPQ l h
  | ub u => trivial

theorem Outcome.all_of_ok {σ} {P : σ → Prop} {o : Outcome σ} {s : σ} (h : o.All P) (ho : o = .ok s) : P s := by
  subst ho; exact h
theorem Outcome.all_of_throw {σ} {P : σ → Prop} {o : Outcome σ} {e : Exc} {l : σ} (h : o.All P) (ho : o = .throw e l) : P l := by
  subst ho; exact h

def Outcome.Ok {σ} (P : σ → Prop) (o : Outcome σ) : Prop := ∀ s, o = .ok s → P s

theorem Outcome.ok_ok {σ} {P : σ → Prop} {s : σ} (h : P s) : (Outcome.ok s).Ok P := by
  intro s' hs; cases hs; exact h
theorem Outcome.ok_throw {σ} {P : σ → Prop} {e : Exc} {s : σ} : (Outcome.throw e s).Ok P := by
  intro s' hs; cases hs

theorem Outcome.ok_mono {σ} {P Q : σ → Prop} {o : Outcome σ} (h : o.Ok Q) (hQP : ∀ s, Q s → P s) : o.Ok P :=
  fun s e => hQP s (h s e)

theorem Outcome.ok_andThen {α σ} {P : σ → Prop} {r : Res α} {l : σ} {k : α → Outcome σ}
    (hk : ∀ a, r = .ok a → (k a).Ok P) : (r.andThen l k).Ok P := by
  cases r with
  | ok a => exact hk a rfl
  | throw e => intro s hs; cases hs
  | ub u => intro s hs; cases hs

theorem Outcome.ok_bind {σ} {P Q : σ → Prop} {o : Outcome σ} {k : σ → Outcome σ}
    (ho : o.Ok Q) (hk : ∀ a, Q a → (k a).Ok P) : (o.bind k).Ok P := by
  cases o with
  | ok a => exact hk a (ho a rfl)
  | throw e l => intro s hs; cases hs
  | ub u => intro s hs; cases hs

theorem Outcome.ok_lift {α σ} {P : σ → Prop} {Q : α → Prop} {o : Outcome α} {f : α → σ}
    (ho : o.Ok Q) (hf : ∀ a, Q a → P (f a)) : (o.lift f).Ok P := by
  cases o with
  | ok a => intro s hs; cases hs; exact hf a (ho a rfl)
  | throw e l => intro s hs; cases hs
  | ub u => intro s hs; cases hs

def Res.NoUB {α} (r : Res α) : Prop := ∀ k, r ≠ .ub k
def Outcome.NoUB {σ} (o : Outcome σ) : Prop := ∀ k, o ≠ .ub k

theorem Res.noUB_ok {α} (a : α) : (Res.ok a).NoUB := by intro k h; cases h
theorem Res.noUB_throw {α} (e : Exc) : (Res.throw e : Res α).NoUB := by intro k h; cases h
theorem Res.noUB_bind {α β} {r : Res α} {f : α → Res β} (hr : r.NoUB) (hf : ∀ a, (f a).NoUB) : (r.bind f).NoUB := by
  cases r with
  | ok a => simpa using hf a
  | throw e => simpa using Res.noUB_throw e
  | ub k => exact absurd rfl (hr k)
theorem Res.noUB_ite {α} (c : Prop) [Decidable c] {a b : Res α} (ha : a.NoUB) (hb : b.NoUB) : (if c then a else b).NoUB :=
  iteInduction (fun _ => ha) fun _ => hb
theorem Res.noUB_map {α β} {r : Res α} {f : α → β} (hr : r.NoUB) : (r.map f).NoUB :=
  Res.noUB_bind hr fun _ => Res.noUB_ok _

theorem Outcome.noUB_ok {σ} (s : σ) : (Outcome.ok s).NoUB := by intro k h; cases h
theorem Outcome.noUB_throw {σ} (e : Exc) (s : σ) : (Outcome.throw e s).NoUB := by intro k h; cases h
theorem Outcome.noUB_andThen {α σ} {r : Res α} {l : σ} {f : α → Outcome σ} (hr : r.NoUB) (hf : ∀ a, r = .ok a → (f a).NoUB) :
    (r.andThen l f).NoUB := by
  cases r with
  | ok a => simpa using hf a rfl
  | throw e => simpa using Outcome.noUB_throw e l
  | ub k => exact absurd rfl (hr k)
theorem Outcome.noUB_bind {σ} {o : Outcome σ} {f : σ → Outcome σ} (ho : o.NoUB) (hf : ∀ a, (f a).NoUB) : (o.bind f).NoUB := by
  cases o with
  | ok a => simpa using hf a
  | throw e l => simpa using Outcome.noUB_throw e l
  | ub k => exact absurd rfl (ho k)
theorem Outcome.noUB_lift {α σ} {o : Outcome α} {f : α → σ} (ho : o.NoUB) : (o.lift f).NoUB := by
  intro k h; cases o with
  | ok a => cases h
  | throw e l => cases h
  | ub k' => exact ho k' rfl

structure Outcome.AllN {σ} (P : σ → Prop) (o : Outcome σ) : Prop where
  all : o.All P
  noUB : o.NoUB

theorem Outcome.allN_ok {σ} {P : σ → Prop} {s : σ} (h : P s) : (Outcome.ok s).AllN P := ⟨h, Outcome.noUB_ok s⟩

theorem Outcome.allN_throw {σ} {P : σ → Prop} (e : Exc) {s : σ} (h : P s) : (Outcome.throw e s).AllN P := ⟨h, Outcome.noUB_throw e s⟩

theorem Outcome.allN_mono {σ} {P Q : σ → Prop} {o : Outcome σ} (h : o.AllN P) (hPQ : ∀ s, P s → Q s) : o.AllN Q :=
  ⟨Outcome.all_mono h.all hPQ, h.noUB⟩

theorem Outcome.allN_andThen {α σ} {P : σ → Prop} {r : Res α} {l : σ} {k : α → Outcome σ}
    (hr : r.NoUB) (hl : P l) (hk : ∀ a, r = .ok a → (k a).AllN P) : (r.andThen l k).AllN P :=
  ⟨Outcome.all_andThen hl fun a h => (hk a h).all, Outcome.noUB_andThen hr fun a h => (hk a h).noUB⟩

/-- `hQ` is the throw branch: what `o` leaves is what `o.bind k` leaves -/
theorem Outcome.allN_bind {σ} {P Q : σ → Prop} {o : Outcome σ} {k : σ → Outcome σ}
    (ho : o.AllN Q) (hQ : ∀ a, Q a → P a) (hk : ∀ a, Q a → (k a).AllN P) : (o.bind k).AllN P := by
  cases o with
  | ok a => exact hk a ho.all
  | throw e l => exact Outcome.allN_throw e (hQ l ho.all)
  | ub u => exact absurd rfl (ho.noUB u)

theorem Outcome.allN_lift {α σ} {P : σ → Prop} {Q : α → Prop} {o : Outcome α} {f : α → σ}
    (ho : o.AllN Q) (hf : ∀ a, Q a → P (f a)) : (o.lift f).AllN P :=
  ⟨Outcome.all_lift ho.all hf, Outcome.noUB_lift ho.noUB⟩

/-- the three questions asked of an operation, answered in one walk along its definition: `I` holds of whatever it leaves and it is
    never `ub`; under `C` it completes; after a success `Q` holds. `C` is one proposition for the whole walk, hence about the state at the
    START. For a look-up made after a rewrite, either `C` is a snapshot of the look-ups beforehand, carried along by what the rewrites leave
    alone (`PointSlots`, by `Off`), or `C` is `∀ s, I s → M s`, used at every state reached; this says nothing at an `I` weaker than `M`
    (`updateAnalogParams_walk`). No rule takes a guard that throws: `updateParameters` and the public calls begin with one and are not walks. -/
structure Outcome.Walk {σ} (I : σ → Prop) (C : Prop) (Q : σ → Prop) (o : Outcome σ) : Prop where
  allN : o.AllN I
  completes : C → ∃ b, o = .ok b
  post : o.Ok Q

theorem Outcome.walk_ok {σ} {I Q : σ → Prop} {C : Prop} {s : σ} (hI : I s) (hQ : Q s) : (Outcome.ok s).Walk I C Q :=
  ⟨Outcome.allN_ok hI, fun _ => ⟨s, rfl⟩, Outcome.ok_ok hQ⟩

theorem Outcome.walk_mono {σ} {I Q Q' : σ → Prop} {C : Prop} {o : Outcome σ} (h : o.Walk I C Q) (hQ : ∀ s, Q s → Q' s) : o.Walk I C Q' :=
  ⟨h.allN, h.completes, Outcome.ok_mono h.post hQ⟩

/-- `hc`: under `C` the read succeeds -/
theorem Outcome.walk_andThen {α σ} {I Q : σ → Prop} {C : Prop} {r : Res α} {l : σ} {k : α → Outcome σ}
    (hr : r.NoUB) (hl : I l) (hc : C → ∃ a, r = .ok a) (hk : ∀ a, r = .ok a → (k a).Walk I C Q) : (r.andThen l k).Walk I C Q :=
  ⟨Outcome.allN_andThen hr hl fun a h => (hk a h).allN,
    fun hC => by obtain ⟨a, rfl⟩ := hc hC; exact (hk a rfl).completes hC,
    Outcome.ok_andThen fun a h => (hk a h).post⟩

/-- the continuation is told what `o` establishes -/
theorem Outcome.walk_bind {σ} {I Q R : σ → Prop} {C : Prop} {o : Outcome σ} {k : σ → Outcome σ}
    (ho : o.Walk I C R) (hk : ∀ a, I a → R a → (k a).Walk I C Q) : (o.bind k).Walk I C Q := by
  cases o with
  | ok a => exact hk a ho.allN.all (ho.post a rfl)
  | throw e l => exact ⟨Outcome.allN_throw e ho.allN.all, fun hC => (ho.completes hC).elim fun _ h => (nomatch h), Outcome.ok_throw⟩
  | ub u => exact absurd rfl (ho.allN.noUB u)

theorem Outcome.walk_lift {α σ} {I Q : σ → Prop} {J R : α → Prop} {C : Prop} {o : Outcome α} {f : α → σ}
    (ho : o.Walk J C R) (hI : ∀ a, J a → I (f a)) (hQ : ∀ a, R a → Q (f a)) : (o.lift f).Walk I C Q :=
  ⟨Outcome.allN_lift ho.allN hI, fun hC => let ⟨a, ha⟩ := ho.completes hC; ⟨f a, Outcome.lift_ok_iff.mpr ⟨a, ha, rfl⟩⟩,
    Outcome.ok_lift ho.post hQ⟩

end Ezc3d
