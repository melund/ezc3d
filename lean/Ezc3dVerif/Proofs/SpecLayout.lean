import Ezc3dVerif.Proofs.SpecHeader
import Ezc3dVerif.Proofs.SpecFrames
import Ezc3dVerif.Proofs.SpecRecords
import Ezc3dVerif.Proofs.Layout
/-
  `Spec.decode` as a whole: the leading zeros, the decoder from its stages, and what it must find in a file of the declared
  layouts, described by the same parameters as in `load_layout`, so that both decoders are proved against the same bytes.
-/
namespace Ezc3d
open C12 N Spec

theorem countZeros_cons_ne (x : UInt8) (rest : Bytes) (hx : x ≠ 0) : countZeros (x :: rest) = 0 := by
  unfold countZeros
  split
  next h => injection h with h1 _; exact absurd h1 hx
  · rfl

theorem countZeros_replicate (Z : Nat) (x : UInt8) (rest : Bytes) (hx : x ≠ 0) :
    countZeros (List.replicate Z 0 ++ x :: rest) = Z := by
  induction Z with
  | zero => simpa using countZeros_cons_ne x rest hx
  | succ k ih =>
    rw [List.replicate_succ, List.cons_append, countZeros, ih]

theorem decode_of_parts (b : Bytes) (af : Bool) (z : Nat) (h : SHeader) (pro : List Nat) (recs : Records) (frames : List SFrame)
    (rest : Bytes) (hz : countZeros b = z) (hh : decodeHeader b z = some h) (hpb : h.paramBlock ≠ 0)
    (hpro : listAt byteAt b (z + 512 * (h.paramBlock - 1)) 1 4 = some pro)
    (hrec : decodeRecords b (b.length + 1) (z + 512 * (h.paramBlock - 1) + 4) {} = some recs)
    (hfl : (isNegF h.scale || af) = true) (hds : h.dataStart ≠ 0)
    (hfr : decodeFrames h.nPoints h.subframes (if h.subframes = 0 then 0 else h.analogPerFrame / h.subframes)
      (if h.lastFrame + 1 ≥ h.firstFrame then h.lastFrame + 1 - h.firstFrame else 0) (b.drop (z + 512 * (h.dataStart - 1)))
      = some (frames, rest)) :
    Spec.decode b af = some
      { leadingZeros := z, header := h, prologue := pro, groups := recs.groups, params := recs.params,
        terminated := recs.terminated, paramEnd := recs.endPos, frames := frames, dataBytesLeft := rest.length } := by
  unfold Spec.decode
  simp only [hz, hh, hpb, hpro, hrec, hfl, hds, hfr, if_false, not_true_eq_false]

/-- what an independent reader of the format must find in a file of the declared layouts -/
def layoutContent (h : Header) (Z pa ds nb : Nat) (p0 p1 : UInt8) (rs : List Rec) (frames : List Frame) : Spec.Content :=
  { leadingZeros := Z, header := specHeaderP h pa ds, prologue := [p0.toNat, p1.toNat, (low8N nb).toNat, 84],
    groups := specGroupsR rs, params := specParamsR rs, terminated := true,
    paramEnd := Z + 512 * (pa - 1) + 4 + (recsBytes rs).length + 1, frames := frames.map specFrame, dataBytesLeft := 0 }

end Ezc3d
