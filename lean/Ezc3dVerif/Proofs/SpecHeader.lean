import Ezc3dVerif.Proofs.SpecBasics
import Ezc3dVerif.Proofs.Layout
/-
  The Spec decoder on the 512-byte header record, wherever it stands in the file: field by field at the 22 offsets of
  the format. It returns `specHeaderP h pa ds` (`specHeader` when the parameters are in block 2), the scale word as `scaleBits`.
-/
namespace Ezc3d
open C12 N Spec

theorem drop_le (b t : Bytes) (o : Nat) (h : b.drop o = t) (hne : t ≠ []) : o ≤ b.length :=
  Nat.le_of_not_lt fun hlt => hne (h ▸ List.drop_eq_nil_of_le (Nat.le_of_lt hlt))

/-- the scale word as the 32-bit pattern a reader of the format sees -/
def scaleBits (v : Int) : UInt32 :=
  UInt32.ofNat ((v % 256).toNat + 256 * ((v / 256) % 256).toNat + 65536 * ((v / 65536) % 256).toNat + 16777216 * ((v / 16777216) % 256).toNat)

theorem u32At_le32 (v : Int) (t : Bytes) : u32At (le32 v ++ t) 0 = some (scaleBits v) := by
  unfold u32At le32 scaleBits
  simp only [List.cons_append, List.nil_append, List.getElem?_cons_zero, List.getElem?_cons_succ]
  have lt (x : Int) : (x % 256).toNat < 256 := by omega
  rw [UInt8.toNat_ofNat_of_lt' (lt _), UInt8.toNat_ofNat_of_lt' (lt _), UInt8.toNat_ofNat_of_lt' (lt _), UInt8.toNat_ofNat_of_lt' (lt _)]

theorem u32At_le32_of_drop {b t : Bytes} {v : Int} {o : Nat} (h : b.drop o = le32 v ++ t) : u32At b o = some (scaleBits v) := by
  rw [← Nat.add_zero o, ← u32At_drop, h, u32At_le32]

/-- the header of a file the library wrote (parameters in block 2), as an independent reader of the format sees it -/
def specHeader (h : Header) (ds : Nat) : SHeader :=
  { paramBlock := 2, nPoints := h.nbPoints, analogPerFrame := h.nbAnalogsMeas, firstFrame := u64 (h.firstFrame + 1),
    lastFrame := u64 (h.lastFrame + 1), maxGap := h.maxGap, scale := scaleBits h.scale, dataStart := ds,
    subframes := h.nbAnalogByFrame, rate := h.rate, nEvents := h.nbEvents, evTimes := h.evTimes,
    evDisplay := h.evDisplay, evLabels := h.evLabels }

def specHeaderP (h : Header) (pa ds : Nat) : SHeader :=
  { paramBlock := pa, nPoints := h.nbPoints, analogPerFrame := h.nbAnalogsMeas, firstFrame := u64 (h.firstFrame + 1),
    lastFrame := u64 (h.lastFrame + 1), maxGap := h.maxGap, scale := scaleBits h.scale, dataStart := ds,
    subframes := h.nbAnalogByFrame, rate := h.rate, nEvents := h.nbEvents, evTimes := h.evTimes,
    evDisplay := h.evDisplay, evLabels := h.evLabels }

theorem specHeaderP_two (h : Header) (ds : Nat) : specHeaderP h 2 ds = specHeader h ds := rfl

theorem decodeHeader_of_drop (h : Header) (pa ds : Nat) (hk : HdrOK h) (hds : ds < 65536) (hpa : pa < 256)
    {b rest : Bytes} {z : Nat} (d0 : b.drop z = h.bytesP pa ds rest) : decodeHeader b z = some (specHeaderP h pa ds) := by
  unfold Header.bytesP at d0
  -- `dN : b.drop (z + N) = ` the record from its byte `N` on. What `Header.bytesP` puts there, and what the decoder reads there:
  --     0 parameter block      1 key 0x50            2 nbPoints           4 nbAnalogsMeas       6 firstFrame + 1
  --     8 lastFrame + 1       10 maxGap             12 scale (32 bits)   16 data block `ds`    18 nbAnalogByFrame
  --    20 rate (float)        24 270 bytes, not read                     294, 296, 298 key-label words, not read
  --   300 nbEvents           302 2 bytes, not read 304 18 event times (float)                 376 9 display words
  --   394 2 bytes, not read  396 18 labels of 4 bytes                    468 44 bytes, not read
  have d1 := drop_succ d0
  have d2 : b.drop (z + 2) = _ := drop_succ d1
  have d4 : b.drop (z + 4) = _ := drop_step d2
  have d6 : b.drop (z + 6) = _ := drop_step d4
  have d8 : b.drop (z + 8) = _ := drop_step d6
  have d10 : b.drop (z + 10) = _ := drop_step d8
  have d12 : b.drop (z + 12) = _ := drop_step d10
  have d16 : b.drop (z + 16) = _ := drop_step d12
  have d18 : b.drop (z + 18) = _ := drop_step d16
  have d20 : b.drop (z + 20) = _ := drop_step d18
  have d24 : b.drop (z + 24) = _ := drop_step d20
  have d294 := drop_step d24
  rw [List.length_replicate] at d294
  have d296 : b.drop (z + 296) = _ := drop_step d294
  have d298 : b.drop (z + 298) = _ := drop_step d296
  have d300 : b.drop (z + 300) = _ := drop_step d298
  have d302 : b.drop (z + 302) = _ := drop_step d300
  have d304 : b.drop (z + 304) = _ := drop_step (seg := List.replicate 2 0) d302
  have d376 := drop_step d304
  rw [C03.length_flatten_map f32le 4 _ (fun _ _ => rfl), hk.times] at d376
  have d394 := drop_step d376
  rw [C03.length_flatten_map le16N 2 _ (fun _ _ => rfl), hk.displen] at d394
  have d396 : b.drop (z + 396) = _ := drop_step (seg := List.replicate 2 0) d394
  have htimes := listAt_of_drop u32At_drop f32le id 4 h.evTimes (fun _ _ => rfl) (fun v _ t => u32At_f32le v t) d304
  have hdisp := listAt_of_drop u16At_drop le16N id 2 h.evDisplay (fun _ _ => rfl) (fun v hv t => u16At_le16N v (hk.disp v hv) t) d376
  have hlab := listAt_of_drop (f := fun b i => slice b i 4) (fun b o i => slice_drop b o i 4) label4 label4 4 h.evLabels
    (fun x _ => C03.label4_length x)
    (fun x hx t => by have := slice_of_drop (b := label4 x ++ t) (o := 0) rfl; rw [C03.label4_length x] at this; exact this)
    d396
  rw [hk.times, List.map_id] at htimes
  rw [hk.displen, List.map_id] at hdisp
  rw [hk.lablen] at hlab
  unfold decodeHeader
  simp only [byteAt_of_drop d0, byteAt_of_drop d1, u16At_of_drop hk.np d2, u16At_of_drop hk.nam d4,
    u16At_of_drop hk.ffw d6, u16At_of_drop hk.lf d8,
    u16At_of_drop hk.gap d10, u32At_le32_of_drop d12, u16At_of_drop hds d16,
    u16At_of_drop hk.abf d18, u32At_of_drop d20, u16At_of_drop hk.nev d300, htimes, hdisp, hlab,
    show ((0x50 : UInt8)).toNat = 0x50 from rfl, ne_eq, not_true_eq_false, if_false, low8N_toNat pa hpa, List.map_map]
  rw [map_eq_self ((fun l : Bytes => l.takeWhile (· != 0)) ∘ label4) h.evLabels fun x hx => cstr_label4 x (hk.labels x hx)]
  rfl

theorem decodeHeader_layout (h : Header) (Z pa ds : Nat) (rest : Bytes) (hk : HdrOK h) (hds : ds < 65536) (hpa : pa < 256) :
    decodeHeader (List.replicate Z 0 ++ h.bytesP pa ds rest) Z = some (specHeaderP h pa ds) :=
  decodeHeader_of_drop h pa ds hk hds hpa (List.drop_left' List.length_replicate)

end Ezc3d
