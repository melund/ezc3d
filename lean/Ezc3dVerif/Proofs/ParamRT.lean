import Ezc3dVerif.Proofs.Fields
import Ezc3dVerif.Properties.C03
import Ezc3dVerif.Properties.C11
/-
  What a parameter record can hold (`RecOK`), what the reader rebuilds from it (`Param.norm`), the bytes of its
  value part and of the record around them (`valBytes`, `Param.recTail`, `Param.recBytes`), and that the generic path
  of the writer (not the blank POINT:DATA_START slot) emits exactly those bytes (`Param.writeData_plain`, `Param.write_plain`).
-/
namespace Ezc3d
open C12 N

/-- a string the blank-padded cell format can hold in a cell of `w` characters -/
def StrOK (w : Nat) (s : Bytes) : Prop := s.length ≤ w ∧ (∀ x ∈ s, x ≠ 0) ∧ rtrim s = s

/-- A char parameter with ONE dimension is a single string of that width (writer and reader both branch on `dims.length = 1`), or
    none at all if the width is 0; with more dimensions the others count the strings. `.none`: its code does not fit the type byte. -/
def ValuesOK (p : Param) : Prop :=
  match p.type with
  | .byte => p.ints.length = p.dims.prod ∧ ∀ v ∈ p.ints, -128 ≤ v ∧ v < 128
  | .int => p.ints.length = p.dims.prod ∧ ∀ v ∈ p.ints, -32768 ≤ v ∧ v < 32768
  | .float => p.floats.length = p.dims.prod
  | .char =>
    if p.dims.length = 1 then (if p.dims.prod = 0 then p.strs = [] else ∃ s, p.strs = [s] ∧ StrOK (p.dims.headD 0) s)
    else p.strs.length = (p.dims.drop 1).prod ∧ ∀ s ∈ p.strs, StrOK (p.dims.headD 0) s
  | .none => False

def PType.size : PType → Nat
  | .char => 1 | .byte => 1 | .int => 2 | .float => 4 | .none => 0

/-- The capacity limits of C17. The two bounds 30000 are not the format's but a round figure of convenience: what the proofs use is
    that the record's offset word stays below 65536 (`recHead_rt`), with a few hundred bytes of the record besides the values, and
    that the number of values is at most 0xFFFF (`sizeOk_record`). -/
structure RecOK (p : Param) : Prop where
  name_pos : 1 ≤ p.name.length
  name_len : p.name.length ≤ 127
  name_nz : ∀ x ∈ p.name, x ≠ 0
  desc_len : p.desc.length ≤ 255
  desc_nz : ∀ x ∈ p.desc, x ≠ 0
  dims_ne : p.dims ≠ []   -- `dimBytes []` and `dimBytes [1]` are both `[0]`, which reads back as `[1]`
  dims_len : p.dims.length ≤ 255
  dims_small : ∀ d ∈ p.dims, d ≤ 255
  bytes_small : p.type.size * p.dims.prod ≤ 30000
  count_small : (p.dims.drop 1).prod ≤ 30000
  values : ValuesOK p

/-- what `Parameter::read` builds in a fresh object from the record of `p`: the name as the writer upper-cased it, and only the
    value vector the type selects -/
def Param.norm (p : Param) : Param :=
  { name := toUpper p.name, desc := p.desc, locked := p.locked, type := p.type, dims := p.dims,
    ints := if p.type = .byte ∨ p.type = .int then p.ints else [],
    floats := if p.type = .float then p.floats else [],
    strs := if p.type = .char then p.strs else [] }

theorem Param.norm_type (p : Param) : p.norm.type = p.type := rfl
theorem Param.norm_name (p : Param) : p.norm.name = toUpper p.name := rfl

theorem spaces_noNul (k : Nat) : ∀ x ∈ spaces k, x ≠ 0 := by
  intro x hx; unfold spaces at hx; rw [List.mem_replicate] at hx; rw [hx.2]; decide

theorem strCell_length (w : Nat) (s : Bytes) (h : s.length ≤ w) : (strCell w s).length = w := by
  unfold strCell spaces; simp; omega

theorem cellString_strCell (w : Nat) (s : Bytes) (h : StrOK w s) : cellString (strCell w s) = s := by
  obtain ⟨_, hz, ht⟩ := h
  unfold cellString strCell
  rw [List.filter_eq_self.mpr fun x hx => bne_iff_ne.mpr ((List.mem_append.mp hx).elim (hz x) (spaces_noNul _ x))]
  exact (C11.rtrim_append_spaces s _).trans ht

theorem chunks_cells (w : Nat) (strs : List Bytes) (h : ∀ s ∈ strs, s.length ≤ w) :
    chunks w strs.length ((strs.map (strCell w)).flatten) = strs.map (strCell w) := by
  induction strs with
  | nil => simp [chunks]
  | cons s t ih =>
    have hl := strCell_length w s (h s (by simp))
    simp only [List.length_cons, List.map_cons, List.flatten_cons, chunks]
    rw [List.take_left' hl, List.drop_left' hl, ih (fun x hx => h x (by simp [hx]))]

theorem map_cellString_cells (w : Nat) (strs : List Bytes) (h : ∀ s ∈ strs, StrOK w s) :
    (strs.map (strCell w)).map cellString = strs := by
  rw [List.map_map, List.map_congr_left (f := cellString ∘ strCell w) (g := id) fun s hs => cellString_strCell w s (h s hs), List.map_id]

def valBytes (p : Param) : Bytes :=
  match p.type with
  | .byte => p.ints.map low8
  | .int => (p.ints.map le16).flatten
  | .float => (p.floats.map f32le).flatten
  | .char => (p.strs.map (strCell (p.dims.headD 0))).flatten
  | .none => []

theorem prodU64_eq (dims : List Nat) : prodU64 dims = dims.prod % two64 := by
  have : ∀ (l : List Nat) (acc : Nat), acc < two64 → l.foldl (fun a d => u64 (a * d)) acc = (acc * l.prod) % two64 := by
    intro l
    induction l with
    | nil => intro acc h; rw [List.foldl_nil, List.prod_nil, Nat.mul_one, Nat.mod_eq_of_lt h]
    | cons d t ih =>
      intro acc _
      rw [List.foldl_cons, List.prod_cons, ih _ (u64_lt _), u64, Nat.mod_mul_mod, Nat.mul_assoc]
  rw [prodU64, this dims 1 (by decide), Nat.one_mul]

theorem hasSize_small (dims : List Nat) (hne : dims ≠ []) (h : dims.prod ≤ 30000) : hasSize dims = dims.prod := by
  rw [hasSize, if_neg fun h0 => hne (List.length_eq_zero_iff.mp h0), prodU64_eq, Nat.mod_eq_of_lt (by unfold two64; omega), u64ToI32_of_lt _ (by unfold two31; omega)]

theorem size_pos_of_values (p : Param) (h : ValuesOK p) : 1 ≤ p.type.size := by
  unfold ValuesOK at h
  cases ht : p.type <;> simp only [ht] at h <;> simp [PType.size]

theorem prod_small (p : Param) (h : RecOK p) : p.dims.prod ≤ 30000 :=
  Nat.le_trans (Nat.le_mul_of_pos_left _ (size_pos_of_values p h.values)) h.bytes_small

theorem ValuesOK.text_cases {p : Param} (hv : ValuesOK p) (ht : p.type = .char) (hne : p.dims ≠ []) :
    (p.dims = [0] ∧ p.strs = []) ∨
    (∃ w s0, p.dims = [w] ∧ w ≠ 0 ∧ p.strs = [s0] ∧ StrOK w s0) ∨
    (∃ w d t, p.dims = w :: d :: t ∧ p.strs.length = (d :: t).prod ∧ ∀ s ∈ p.strs, StrOK w s) := by
  unfold ValuesOK at hv
  simp only [ht] at hv
  rcases hd : p.dims with _ | ⟨w, _ | ⟨d, t⟩⟩
  · exact absurd hd hne
  · simp only [hd, List.length_singleton, if_true, List.prod_cons, List.prod_nil, Nat.mul_one, List.headD_cons] at hv
    split at hv
    · next h0 => exact .inl ⟨by rw [h0], hv⟩
    · next h0 => obtain ⟨s0, hs0, hok⟩ := hv; exact .inr (.inl ⟨w, s0, rfl, h0, hs0, hok⟩)
  · rw [hd, if_neg (by simp)] at hv
    exact .inr (.inr ⟨w, d, t, rfl, hv.1, hv.2⟩)

theorem valBytes_length (p : Param) (h : RecOK p) : (valBytes p).length = p.type.size * p.dims.prod := by
  have hv := h.values
  unfold valBytes
  cases ht : p.type
  case char =>
    rcases hv.text_cases ht h.dims_ne with ⟨hd, hs⟩ | ⟨w, s0, hd, _, hs, hok⟩ | ⟨w, d, t, hd, hl, hok⟩
    · rw [hd, hs]; rfl
    · rw [hd, hs]; simp [PType.size, strCell_length w s0 hok.1]
    · rw [hd, List.headD_cons, C03.length_flatten_map (strCell w) w p.strs (fun x hx => strCell_length w x (hok x hx).1), hl, List.prod_cons]
      exact (Nat.one_mul _).symm
  -- byte, int, float are left: for `.none`, `hv` has become `False`
  all_goals (unfold ValuesOK at hv; simp only [ht, PType.size] at hv ⊢)
  · simp [hv.1]
  · rw [C03.length_flatten_map le16 2 _ (fun _ _ => rfl), hv.1]
  · rw [C03.length_flatten_map f32le 4 _ (fun _ _ => rfl), hv]

theorem writeValues_all (p : Param) (n : Nat)
    (h : match p.type with
      | .byte => p.ints.length = n | .int => p.ints.length = n | .float => p.floats.length = n
      | .char => p.strs.length = n | .none => True) :
    p.writeValues n = .ok (valBytes p) := by
  unfold Param.writeValues valBytes
  cases ht : p.type <;> simp only [ht] at h ⊢ <;> rw [if_neg (by omega), List.take_of_length_le (Nat.le_of_eq h)]

theorem Param.writeData_plain (p : Param) (h : RecOK p) : p.writeData false = .ok (valBytes p, none) := by
  have hs := hasSize_small p.dims h.dims_ne (prod_small p h)
  have hv := h.values
  unfold Param.writeData
  rw [hs]
  simp only [Bool.false_eq_true, and_false, if_false]
  by_cases h0 : p.dims.prod = 0
  · -- nothing is written, and `valBytes p` has `size * 0` bytes
    rw [if_neg (by omega), List.length_eq_zero_iff.mp (by rw [valBytes_length p h, h0, Nat.mul_zero] : (valBytes p).length = 0)]
  · rw [if_pos (by omega)]
    unfold ValuesOK at hv
    cases ht : p.type <;> simp only [ht] at hv
    · rw [if_pos rfl]
      by_cases h1 : p.dims.length = 1
      · simp only [h1, if_true, h0, if_false] at hv
        obtain ⟨s, hs1, _⟩ := hv
        rw [if_pos h1, hs1]
        simp [valBytes, ht, hs1]
      · simp only [h1, if_false] at hv
        rw [if_neg h1, writeValues_all p _ (by simp only [ht]; exact hv.1)]; rfl
    all_goals rw [if_neg (by simp), writeValues_all p _ (by simp only [ht]; first | exact hv.1 | exact hv)]; rfl

theorem ptypeOf_code (t : PType) (h : t ≠ .none) : ptypeOf t.code = some t := by
  cases t <;> first | rfl | exact absurd rfl h

theorem code_natAbs (t : PType) (h : t ≠ .none) : t.code.natAbs = t.size := by
  cases t <;> first | rfl | exact absurd rfl h

theorem code_range (t : PType) (h : t ≠ .none) : -128 ≤ t.code ∧ t.code < 128 := by
  cases t <;> first | (constructor <;> decide) | exact absurd rfl h

theorem type_ne_none (p : Param) (h : ValuesOK p) : p.type ≠ .none := by
  intro hn; unfold ValuesOK at h; simp [hn] at h

/-- the name-length byte of a record is signed, its sign the lock flag; 0 is the terminator -/
theorem signedLen_range (l : Bool) (n : Nat) (h1 : 1 ≤ n) (h2 : n ≤ 127) :
    -128 ≤ (if l then -(n : Int) else n) ∧ (if l then -(n : Int) else n) < 128 ∧ (if l then -(n : Int) else n) ≠ 0 := by
  split <;> omega

theorem signedLen_natAbs (l : Bool) (n : Nat) : (if l then -(n : Int) else n).natAbs = n := by
  cases l <;> simp

theorem signedLen_natAbs_upper (l : Bool) (name : Bytes) :
    (if l then -(name.length : Int) else name.length).natAbs = (toUpper name).length :=
  (signedLen_natAbs _ _).trans (C03.toUpper_length _).symm

theorem idByte_natAbs (i : Nat) : ((i : Int) + 1).natAbs = i + 1 := Int.natAbs_natCast (i + 1)

theorem signedLen_neg (l : Bool) (n : Nat) (h1 : 1 ≤ n) : decide ((if l then -(n : Int) else n) < 0) = l := by
  cases l <;> simp <;> omega

def Param.nameLen (p : Param) : Int := if p.locked then -(p.name.length : Int) else p.name.length

theorem locked_of_nameLen (p : Param) (h : 1 ≤ p.name.length) : decide (p.nameLen < 0) = p.locked :=
  signedLen_neg p.locked p.name.length h

/-- the value of the record's next-offset field -/
def Param.offN (p : Param) : Nat := 2 + (1 + (dimBytes p.dims).length) + ((valBytes p).length + 1 + p.desc.length)

theorem Param.offN_ne_zero (p : Param) : p.offN ≠ 0 := by unfold Param.offN; omega

/-- number of bytes of a record after its first two (name length, group id) -/
def Param.recLen (p : Param) : Nat := p.name.length + p.offN

def Param.recTail (p : Param) (b : Bytes) : Bytes :=
  toUpper p.name ++ (le16N p.offN ++ (low8 p.type.code :: (dimBytes p.dims ++ (valBytes p ++ (low8N p.desc.length :: (p.desc ++ b))))))

theorem dimBytes_length_le (dims : List Nat) : (dimBytes dims).length ≤ 1 + dims.length := by
  unfold dimBytes; split <;> simp <;> omega

theorem Param.offN_small (p : Param) (h : RecOK p) : p.offN < 32768 := by
  unfold Param.offN
  have h1 := dimBytes_length_le p.dims
  have h2 := valBytes_length p h
  have h3 := h.bytes_small
  have h4 := h.desc_len
  have h5 := h.dims_len
  omega

theorem Param.recTail_length (p : Param) (b : Bytes) : (p.recTail b).length = p.recLen + b.length := by
  simp only [Param.recTail, Param.recLen, Param.offN, List.length_append, List.length_cons, le16N, le16_length, C03.toUpper_length]
  omega

theorem Param.recTail_append (p : Param) (b : Bytes) : p.recTail [] ++ b = p.recTail b := by
  unfold Param.recTail; simp

def Param.recBytes (p : Param) (gid : Int) : Bytes := low8 p.nameLen :: low8 gid :: p.recTail []

theorem Param.recBytes_length (p : Param) (gid : Int) : (p.recBytes gid).length = 2 + p.recLen := by
  rw [Param.recBytes, List.length_cons, List.length_cons, Param.recTail_length, List.length_nil]; omega

/-- offset of the value bytes inside the record -/
def Param.slotOff (p : Param) : Nat := 2 + p.name.length + 2 + 1 + (dimBytes p.dims).length

def Param.recWith (p : Param) (gid : Int) (vals : Bytes) : Bytes :=
  low8 p.nameLen :: low8 gid :: (toUpper p.name ++
    (le16N (2 + (1 + (dimBytes p.dims).length) + (vals.length + 1 + p.desc.length)) ++
      (low8 p.type.code :: (dimBytes p.dims ++ (vals ++ (low8N p.desc.length :: p.desc))))))

theorem Param.recBytes_eq (p : Param) (gid : Int) : p.recBytes gid = p.recWith gid (valBytes p) := by
  simp only [Param.recBytes, Param.recTail, Param.offN, Param.recWith, List.append_nil]

theorem Param.write_of_data (p : Param) (gid : Int) (ip : Bool) (vals : Bytes) (slot : Option Nat)
    (h : p.writeData ip = .ok (vals, slot)) :
    p.write gid ip = .ok (p.recWith gid vals, slot.map fun o => p.slotOff + o) := by
  unfold Param.write Param.recWith
  rw [h]
  simp only [Res.bind_ok, le16N, Param.nameLen, Param.slotOff, List.length_append, List.length_cons, C03.toUpper_length,
    List.append_assoc, List.cons_append, List.nil_append]
  rw [show (2 : Int) + ((List.length (dimBytes p.dims) + 1 : Nat) : Int) + ((List.length vals + (List.length p.desc + 1) : Nat) : Int)
      = ((2 + (1 + List.length (dimBytes p.dims)) + (List.length vals + 1 + List.length p.desc) : Nat) : Int) by push_cast; omega]
  congr 3
  funext o; omega

theorem Param.write_plain (p : Param) (h : RecOK p) (gid : Int) : p.write gid false = .ok (p.recBytes gid, none) := by
  rw [Param.write_of_data p gid false _ _ (Param.writeData_plain p h), Param.recBytes_eq]
  rfl

end Ezc3d
