import Ezc3dVerif.Properties.C13
import Ezc3dVerif.Proofs.ParamRT
import Ezc3dVerif.Proofs.SizeCheck
import Ezc3dVerif.Proofs.Progress
/-
  The loader on ARBITRARY bytes, each reader walked once (`SR.Spec`, `RRes.Within`): it only moves forward, never evaluates an
  unchecked access, its loops do not run out of the fuel they are given, and every parameter of a LOADED object holds as many
  values as its dimensions announce (`ParamWF`), so saving it never indexes a value vector out of range. The arithmetic: the size
  check returns a count of 0 only when a counted dimension is 0, and then any value list is well-formed.
-/
namespace Ezc3d
open C13 N

/-
  `SR.Post`, `SR.PostL` and their rules (`post_*`, `postL_*`) are the interface for a statement that asks for a post-condition alone.
  The walks of this file go through `SR.Spec` (Progress.lean), which also says that the reader moves forward and never returns
  `ub`, and from which both follow (`SR.Spec.post`, `SR.Spec.postL`).
-/

def SR.Post {α} (m : SR α) (P : α → Prop) : Prop := ∀ s a s', m s = .ok (a, s') → P a

theorem SR.Spec.post {α} {m : SR α} {P : α → Prop} (h : ∀ L, m.Spec L P) : m.Post P :=
  fun s _ _ hs => ((h s.len s rfl).ok hs).2

theorem SR.post_pure {α} {P : α → Prop} {a : α} (h : P a) : (SR.pure a).Post P := SR.Spec.post fun _ => SR.spec_pure h
theorem SR.post_throw {α} {P : α → Prop} (e : Exc) : (SR.throw e : SR α).Post P := SR.Spec.post fun _ => SR.spec_throw e
theorem SR.post_bind {α β} {m : SR α} {f : α → SR β} {P : β → Prop} (hf : ∀ a, (f a).Post P) : (SR.bind m f).Post P := by
  intro s b s' hs
  unfold SR.bind at hs
  split at hs
  · exact hf _ _ _ _ hs
  · cases hs
theorem SR.post_lift {α} {P : α → Prop} (r : InStream → α × InStream) (h : ∀ s, P (r s).1) : (SR.lift r).Post P := by
  intro s a s' hs
  have e : (r s).1 = a := congrArg Prod.fst (Except.ok.inj hs)
  exact e ▸ h s
theorem SR.post_ite {α} {P : α → Prop} (c : Prop) [Decidable c] {a b : SR α} (ha : c → a.Post P) (hb : ¬ c → b.Post P) :
    (if c then a else b).Post P := by
  split
  · exact ha ‹_›
  · exact hb ‹_›

def SR.PostL {α} (L : Nat) (m : SR α) (P : α → Prop) : Prop := ∀ s a s', s.len = L → m s = .ok (a, s') → s'.len = L ∧ P a

theorem SR.Spec.postL {α} {L : Nat} {m : SR α} {P : α → Prop} (h : m.Spec L P) : m.PostL L P := by
  intro s a s' hl hs
  obtain ⟨h1, h2⟩ := (h s hl).ok hs
  exact ⟨h1.1.trans hl, h2⟩

theorem SR.postL_pure {α} {L : Nat} {P : α → Prop} {a : α} (h : P a) : (SR.pure a).PostL L P := (SR.spec_pure h).postL
theorem SR.postL_throw {α} {L : Nat} {P : α → Prop} (e : Exc) : (SR.throw e : SR α).PostL L P := (SR.spec_throw e).postL
theorem SR.postL_get {L : Nat} : SR.get.PostL L (fun a => a.len = L) := SR.spec_get.postL
theorem SR.postL_lift {α} {L : Nat} {P : α → Prop} (r : InStream → α × InStream) (hl : ∀ s, (r s).2.len = s.len) (h : ∀ s, P (r s).1) :
    (SR.lift r).PostL L P := by
  intro s a s' hL hs
  have e1 : (r s).1 = a := congrArg Prod.fst (Except.ok.inj hs)
  have e2 : (r s).2 = s' := congrArg Prod.snd (Except.ok.inj hs)
  exact ⟨e2 ▸ (hl s).trans hL, e1 ▸ h s⟩
theorem SR.postL_bind {α β} {L : Nat} {m : SR α} {f : α → SR β} {Q : α → Prop} {P : β → Prop}
    (hm : m.PostL L Q) (hf : ∀ a, Q a → (f a).PostL L P) : (SR.bind m f).PostL L P := by
  intro s b s' hl hs
  unfold SR.bind at hs
  split at hs
  next a s1 h1 =>
    obtain ⟨hl1, hq⟩ := hm s a s1 hl h1
    exact hf a hq s1 b s' hl1 hs
  · cases hs
theorem SR.postL_ite {α} {L : Nat} {P : α → Prop} (c : Prop) [Decidable c] {a b : SR α} (ha : c → a.PostL L P) (hb : ¬ c → b.PostL L P) :
    (if c then a else b).PostL L P := by
  split
  · exact ha ‹_›
  · exact hb ‹_›
theorem SR.postL_mono {α} {L : Nat} {m : SR α} {P Q : α → Prop} (h : m.PostL L P) (hpq : ∀ a, P a → Q a) : m.PostL L Q := by
  intro s a s' hl hs
  obtain ⟨h1, h2⟩ := h s a s' hl hs
  exact ⟨h1, hpq a h2⟩

/-- a counted dimension is 0 (the first one of a string table is the cell width, not counted) -/
def zeroDim (fil : Bool) (dims : List Nat) (i : Nat) : Bool :=
  (List.zip (List.range' i dims.length) dims).any fun (j, d) => d == 0 && (decide (j > 0) || !fil)

theorem zeroDim_cons (fil : Bool) (d : Nat) (t : List Nat) (i : Nat) :
    zeroDim fil (d :: t) i = (d == 0 && (decide (i > 0) || !fil) || zeroDim fil t (i + 1)) := by
  simp [zeroDim, List.range'_succ]

/-- the size check: `two64 / 256` is 2^56, and a count `nv` below it times a dimension below 256 does not wrap in `u64`, so the
    element count it returns is 0 only when a counted dimension is 0 -/
theorem sizeOk_pos (rem : Nat) (fil : Bool) (hrem : rem + 0xFFFF < two64 / 256) : ∀ (dims : List Nat) (i nb nv : Nat),
    (∀ d ∈ dims, d < 256) → nv ≠ 0 → nv ≤ rem + 0xFFFF → zeroDim fil dims i = false → ∀ n, sizeOk rem fil dims i nb nv = some n → n ≠ 0 := by
  intro dims
  induction dims with
  | nil => intro i nb nv _ hnv _ _ n h; cases h; exact hnv
  | cons d t ih =>
    intro i nb nv hd hnv hle hz n h
    rw [zeroDim_cons, Bool.or_eq_false_iff] at hz
    simp only [sizeOk] at h
    generalize (if nb ≠ 0 then u64 (nb * d) else nb) = nb' at h
    generalize hnv' : (if nv ≠ 0 ∧ (i > 0 ∨ (!fil) = true) then u64 (nv * d) else nv) = nv' at h
    split at h
    · cases h
    next hchk =>
      refine ih (i + 1) nb' nv' (fun x hx => hd x (List.mem_cons_of_mem _ hx)) ?_ (Nat.le_of_not_lt (not_or.mp hchk).2) hz.2 n h
      -- the new element count is a product of non-zero factors that does not wrap
      rw [← hnv']
      split
      next hc =>
        have hd0 : d ≠ 0 := by
          intro hd0
          rcases hc.2 with hi | hi <;> simp [hd0, hi] at hz
        have : nv * d < two64 :=
          Nat.lt_of_lt_of_le (Nat.mul_lt_mul'' (Nat.lt_of_le_of_lt hle hrem) (hd d List.mem_cons_self)) (Nat.div_mul_le_self _ _)
        rw [u64_small _ this]
        exact Nat.mul_ne_zero hnv hd0
      · exact hnv

theorem zeroDim_iff (fil : Bool) (dims : List Nat) (i : Nat) : zeroDim fil dims i = true ↔ countedProd fil i dims = 0 :=
  enum_any_zero_iff fil dims i

theorem zeroDim_enum (fil : Bool) (dims : List Nat) :
    (enum dims).any (fun (i, d) => d == 0 && (decide (i > 0) || !fil)) = zeroDim fil dims 0 := by
  unfold enum zeroDim
  rw [List.range_eq_range']

theorem hasSize_zero (dims : List Nat) (h : dims.prod = 0) : hasSize dims = 0 := by
  unfold hasSize
  split
  · rfl
  · rw [prodU64_eq, h]; rfl

theorem ParamWF_of_zeroDim (p : Param)
    (hz : zeroDim (p.type == .char && decide (p.dims.length > 1)) p.dims 0 = true) : ParamWF p := by
  have hn : p.nValues = 0 := (zeroDim_iff ..).1 hz
  rw [Param.nValues_eq] at hn
  unfold Param.fil at hn
  unfold ParamWF
  cases ht : p.type with
  | char =>
    simp only [ht, beq_self_eq_true, Bool.true_and, decide_eq_true_eq] at hn
    simp only
    split
    next h1 =>
      rw [if_neg (by omega)] at hn
      rw [hasSize_zero _ hn]
      exact fun hc => absurd hc (Int.lt_irrefl 0)
    next h1 =>
      split at hn
      · rw [hn]; exact Nat.zero_le _
      · rw [List.eq_nil_of_length_eq_zero (by omega : p.dims.length = 0)] at hn; cases hn
  | byte | int | float => rw [ht] at hn; simp only; rw [show p.dims.prod = 0 from hn]; exact Nat.zero_le _
  | none => trivial

variable {L : Nat}

theorem readValues_spec (ty : PType) (dims : List Nat) (p0 : Param) (h0 : p0.type = ty) (hd : p0.dims = dims) :
    (readValues ty dims p0).Spec L ParamWF := by
  unfold readValues
  cases ty with
  | char =>
    refine SR.spec_lift (fun s => ?_) fun s => ?_
    · simp only; split <;> exact Fwd_read s _
    · unfold ParamWF
      by_cases h1 : dims.length = 1 <;> simp [h1, h0, hd, chunks_length]
  | byte =>
    exact SR.spec_lift (fun s => Fwd_readMany (fun s => s.readInt 1) (fun s => Fwd_read s 1) _ s) fun s => by
      simp [ParamWF, h0, hd, readMany_fst_length]
  | int =>
    exact SR.spec_lift (fun s => Fwd_readMany (fun s => s.readInt 2) (fun s => Fwd_read s 2) _ s) fun s => by
      simp [ParamWF, h0, hd, readMany_fst_length]
  | float =>
    exact SR.spec_lift (fun s => Fwd_readMany InStream.readFloat (fun s => Fwd_read s 4) _ s) fun s => by
      simp [ParamWF, h0, hd, readMany_fst_length]
  | none => exact SR.spec_pure (by simp [ParamWF, h0])

theorem Param_read_spec (n : Int) : (Param.read n).Spec L fun r => L + 0xFFFF < two64 / 256 → ParamWF r.1 := by
  unfold Param.read
  refine SR.spec_bind (SR.spec_lift_true fun s => Fwd_read s _) fun name _ => ?_
  refine SR.spec_bind (SR.spec_lift_true fun s => Fwd_read s _) fun off _ => ?_
  refine SR.spec_bind SR.spec_get fun s2 _ => ?_
  refine SR.spec_bind (SR.spec_lift_true fun s => Fwd_read s _) fun len _ => ?_
  split
  · exact SR.spec_throw _
  next ty hty =>
    refine SR.spec_bind (SR.spec_lift_true fun s => Fwd_read s _) fun nDim _ => ?_
    refine SR.spec_bind (Q := fun dims => ∀ d ∈ dims, d < 256) ?_ fun dims hdims => ?_
    · exact SR.spec_ite _ (fun _ => SR.spec_pure (by simp)) fun _ =>
        SR.spec_lift (fun s => Fwd_readMany (fun s => s.readUint 1) (fun s => Fwd_read s 1) _ s) fun s =>
          readMany_all _ _ readUint1_lt _ _
    · refine SR.spec_bind SR.spec_get fun s5 hs5 => ?_
      simp only
      split
      · exact SR.spec_throw _
      next nValues hsz =>
        rw [zeroDim_enum] at hsz
        refine SR.spec_bind (Q := fun p1 => L + 0xFFFF < two64 / 256 → ParamWF p1) ?_ fun p1 hp1 => ?_
        · refine SR.spec_ite _ (fun h0 => SR.spec_pure fun hL => ParamWF_of_zeroDim _ ?_) fun _ =>
            SR.spec_mono (readValues_spec ty dims _ rfl rfl) fun _ h _ => h
          -- no value is read: the count is 0, and with less than 2^56 bytes left that happens only if a counted dimension is 0
          generalize (ty == PType.char && decide (dims.length > 1)) = fil at hsz ⊢
          cases hz : zeroDim fil dims 0 with
          | true => rfl
          | false =>
            rw [hz] at hsz
            have hrem : s5.remaining + 0xFFFF < two64 / 256 := by have := remaining_le s5; omega
            exact absurd h0 (sizeOk_pos s5.remaining fil hrem dims 0 _ 1 hdims Nat.one_ne_zero (by omega) hz nValues hsz)
        · refine SR.spec_bind (SR.spec_lift_true fun s => Fwd_read s _) fun dl _ => ?_
          refine SR.spec_bind (Q := fun p2 => L + 0xFFFF < two64 / 256 → ParamWF p2) ?_ fun p2 hp2 => SR.spec_pure hp2
          -- `ParamWF` does not look at the description
          exact SR.spec_ite _ (fun _ => SR.spec_lift (fun s => Fwd_read s _) fun _ hL => hp1 hL)
            fun _ => SR.spec_pure hp1

theorem Param_read_WF (L : Nat) (hL : L + 0xFFFF < two64 / 256) (n : Int) : (Param.read n).PostL L fun r => ParamWF r.1 :=
  (SR.spec_mono (Param_read_spec n) fun _ h => h hL).postL

theorem Group_read_spec (g : Group) (n : Int) : (g.read n).Spec L fun r => r.1.params = g.params := by
  unfold Group.read
  refine SR.spec_bind (SR.spec_lift_true fun s => Fwd_read s _) fun name _ => ?_
  refine SR.spec_bind (SR.spec_lift_true fun s => Fwd_read s _) fun off _ => ?_
  refine SR.spec_bind SR.spec_get fun s2 _ => ?_
  refine SR.spec_bind (SR.spec_lift_true fun s => Fwd_read s _) fun dl _ => ?_
  refine SR.spec_bind (Q := fun g2 => g2.params = g.params) ?_ fun g2 hg2 => SR.spec_pure hg2
  exact SR.spec_ite _ (fun _ => SR.spec_lift (fun s => Fwd_read s _) fun _ => rfl) (fun _ => SR.spec_pure rfl)

theorem ensureGroups_WFs (gs : List Group) (n : Nat) (h : WFs gs) : WFs (ensureGroups gs n) := by
  intro g hg p hp
  unfold ensureGroups at hg
  simp only [List.mem_append, List.mem_replicate] at hg
  rcases hg with hg | ⟨_, rfl⟩
  · exact h g hg p hp
  · simp at hp

/-- `Within _ (fuel ≤ mu s)`: the loop runs out of fuel only if `fuel ≤ mu s`, since every iteration that continues has consumed input -/
theorem readRecords_within (fuel : Nat) : ∀ (s : InStream) (next : Int) (gs : List Group), s.len = L →
    (readRecords fuel s next gs).Within (fun gs' _ => L + 0xFFFF < two64 / 256 → WFs gs → WFs gs') (fuel ≤ mu s) := by
  induction fuel with
  | zero => intro s next gs _; exact .nonTermination (Nat.zero_le _)
  | succ f ih =>
    intro s next gs hl
    unfold readRecords
    refine iteInduction (fun _ => RRes.Within.ok_iff.2 fun _ hw => hw) fun _ => ?_
    refine iteInduction (fun _ => RRes.Within.throw _) fun _ => ?_
    have hn := readInt1_live s
    have h1 : Fwd s (s.readInt 1).2 := Fwd_read s 1
    have hmu : s.failed = false → mu (s.readInt 1).2 < mu s := mu_read_lt s 1 (Nat.le_refl 1)
    generalize s.readInt 1 = r1 at hn h1 hmu ⊢
    obtain ⟨n, s1⟩ := r1
    dsimp only at hmu
    refine iteInduction (fun _ => RRes.Within.ok_iff.2 fun _ hw => hw) fun hn0 => ?_
    have h2 : Fwd s1 (s1.readInt 1).2 := Fwd_read s1 1
    generalize s1.readInt 1 = r2 at h2 ⊢
    obtain ⟨id, s2⟩ := r2
    have hl2 : s2.len = L := (h1.trans h2).1.trans hl
    -- the chain goes on from a later stream, of smaller measure than `s`, with a well-formed group put at `id`
    have hcont : ∀ s3 nx g', Fwd s2 s3 → (L + 0xFFFF < two64 / 256 → WFs gs → ∀ q ∈ g'.params, ParamWF q) →
        (readRecords f s3 nx ((ensureGroups gs id.natAbs).set (id.natAbs - 1) g')).Within
          (fun gs' _ => L + 0xFFFF < two64 / 256 → WFs gs → WFs gs') (f + 1 ≤ mu s) := fun s3 nx g' h3 hg' =>
      (ih s3 nx _ (h3.1.trans hl2)).imp (fun _ _ h hL hw => h hL (WFs_set (ensureGroups_WFs gs _ hw) _ (hg' hL hw)))
        (by have := mu_le_of_Fwd (h2.trans h3); have := hmu (hn hn0); omega)
    refine iteInduction (fun _ => ?_) fun _ => ?_
    · -- a group record keeps the parameters of its group
      split
      · exact RRes.Within.throw _
      next g hg =>
        refine (Group_read_spec g n s2 hl2).elim RRes.Within.throw fun r s3 h => ?_
        obtain ⟨g', nx⟩ := r
        exact hcont s3 nx g' h.1 fun _ hw => h.2 ▸ ensureGroups_WFs gs _ hw g (List.mem_of_getElem? hg)
    · -- a parameter record adds a well-formed parameter
      split
      · exact RRes.Within.throw _
      next g hg =>
        have hgm : g ∈ ensureGroups gs id.natAbs := by
          split at hg
          · cases hg
          · exact List.mem_of_getElem? hg
        refine (Param_read_spec n s2 hl2).elim RRes.Within.throw fun r s3 h => ?_
        obtain ⟨p, nx⟩ := r
        dsimp only
        cases ha : g.addParam p with
        | throw e => exact RRes.Within.throw _
        | ub k => exact absurd ha (addParam_noUB g p k)
        | ok g' => exact hcont s3 nx g' h.1 fun hL hw => addParam_WF ha (ensureGroups_WFs gs _ hw g hgm) (h.2 hL)

theorem readRecords_WF (L : Nat) (hL : L + 0xFFFF < two64 / 256) (fuel : Nat) : ∀ (s : InStream) (next : Int) (gs gs' : List Group) (s' : InStream),
    s.len = L → WFs gs → readRecords fuel s next gs = .ok (gs', s') → WFs gs' :=
  fun s next gs _ _ hl hw h => (readRecords_within fuel s next gs hl).ok h hL hw

/-- each iteration consumes a byte or ends at the end of the file — unless the stream had failed before without being at the end -/
theorem skipZeros_within (fuel : Nat) : ∀ (s : InStream) (z : Nat),
    (skipZeros fuel s z).Within (fun _ s' => s'.len = s.len) (fuel ≤ s.rest.length ∨ (s.failed = true ∧ s.eof = false)) := by
  induction fuel with
  | zero => intro s z; exact .nonTermination (Or.inl (Nat.zero_le _))
  | succ f ih =>
    intro s z
    unfold skipZeros
    rcases hr : s.readUint 1 with ⟨v, s1⟩
    have hs1 : (s.read 1).2 = s1 := congrArg Prod.snd hr
    have hl : s1.len = s.len := hs1 ▸ (Fwd_read s 1).1
    refine iteInduction (fun _ => RRes.Within.throw _) fun heof => ?_
    refine iteInduction (fun _ => ?_) fun _ => RRes.Within.ok_iff.2 hl
    refine RRes.Within.imp (ih s1 (z + 1)) (fun _ _ h => h.trans hl) fun hc => ?_
    rcases hs1 ▸ read1_cases s with h | ⟨hfl, hsame⟩ | ⟨hlive, hlen⟩
    · exact absurd h heof
    · right; rw [hsame] at heof; exact ⟨hfl, by simpa using heof⟩
    · left; rcases hc with hc | hc
      · omega
      · rw [hlive] at hc; cases hc.1

theorem Header_read_within (s0 : InStream) : (Header.read s0).Within (fun _ s' => s'.len = s0.len) (s0.failed = true) := by
  unfold Header.read
  split
  next pa0 s1 hr =>
    have hs1 : ((s0.seekBeg 0).read 1).2 = s1 := congrArg Prod.snd hr
    have hl : s1.len = s0.len := hs1 ▸ (Fwd_read _ 1).1.trans (seekBeg_len s0 0)
    have hfl := hs1 ▸ read1_cases (s0.seekBeg 0)
    have hfirst : RRes.Within (fun _ s' => s'.len = s0.len) (s0.failed = true)
        (if pa0 ≠ 0 then .ok ((pa0, 0), s1) else skipZeros (s1.rest.length + 1) s1 0) := by
      refine iteInduction (fun _ => RRes.Within.ok_iff.2 hl) fun _ => RRes.Within.imp (skipZeros_within _ s1 0) (fun _ _ h => h.trans hl) fun hc => ?_
      have hsk : (s0.seekBeg 0).failed = true → s0.failed = true := by
        unfold InStream.seekBeg; split <;> simp_all
      rcases hc with hc | hc
      · omega
      · rcases hfl with h | ⟨h, _⟩ | ⟨h, _⟩
        · rw [h] at hc; cases hc.2
        · exact hsk h
        · rw [h] at hc; cases hc.1
    generalize (if pa0 ≠ 0 then (.ok ((pa0, 0), s1) : RRes (Nat × Nat)) else skipZeros (s1.rest.length + 1) s1 0) = first at hfirst ⊢
    rcases first with e | ⟨⟨pa, zeros⟩, s2⟩
    · cases e <;> exact hfirst
    · simp only
      refine iteInduction (fun _ => RRes.Within.throw _) fun _ => RRes.Within.ok_iff.2 ?_
      -- the 22 reads keep `len`
      simp only [readUint_len, readInt_len, readFloat_len, readString_len, readMany_len, implies_true]
      exact RRes.Within.ok_iff.1 hfirst

theorem Header_read_len (s0 : InStream) (h : Header) (sE : InStream) (hr : Header.read s0 = .ok (h, sE)) : sE.len = s0.len :=
  (Header_read_within s0).ok hr

theorem readPrologue_len (s : InStream) (h : Header) : (readPrologue s h).2.len = s.len := by
  unfold readPrologue
  simp only [readUint_len, seekBeg_len]

theorem readParameters_within (s : InStream) (h : Header) :
    (readParameters s h).Within (fun r _ => s.len + 0xFFFF < two64 / 256 → WFs r.2) False := by
  unfold readParameters
  have hl := readPrologue_len s h
  generalize readPrologue s h = r at hl ⊢
  obtain ⟨ph, s5⟩ := r
  refine iteInduction (fun _ => RRes.Within.throw _) fun _ => ?_
  -- the chain starts from no group, with fuel above the measure of the stream
  have hrr := (readRecords_within (2 * s5.rest.length + 2) s5 (s5.tell + u64ToI32 ph.start - 1) [] hl).imp
    (fun _ _ h hL => h hL fun _ hg => nomatch hg) fun hc => Nat.not_succ_le_self _ (Nat.le_trans hc (mu_le s5))
  exact hrr.elim RRes.Within.throw fun gs s6 h => RRes.Within.ok_iff.2 h

/-- EVERY PARAMETER OF A LOADED OBJECT IS WELL-FORMED, whatever bytes the file holds (files below 2^56 bytes) -/
theorem load_WF (F : FloatOps) (file : Bytes) (c : C3D) (hlen : file.length + 0xFFFF < two64 / 256) (h : C3D.load F file = .ok c) :
    WFs c.groups := by
  unfold C3D.load at h
  split at h
  · cases h
  · cases h
  next hd s1 hhr =>
    have l1 : s1.len = file.length := Header_read_len _ _ _ hhr
    split at h
    · cases h
    · cases h
    next ph gs s2 hrp =>
      have hgs : WFs gs := RRes.Within.ok (readParameters_within s1 hd) hrp (l1 ▸ hlen)
      split at h
      · cases h
      · cases h
      next c1 huh =>
        obtain ⟨hd', rfl, _⟩ := (updateHeader_walk F _).post _ huh
        split at h
        · cases h
        · cases h
        · cases h; exact hgs

end Ezc3d
