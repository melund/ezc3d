import Ezc3dVerif.Proofs.AnyOrder
/-
  The writer patches one byte back into what it has written (POINT:DATA_START). The patched bytes are
  the plain records of the same groups with the value of that parameter replaced: `Fills` says so of one writer and is
  carried through the writer's layers (`Fills.seq`); `writeParamSection_bytes` and `_recs` are the written section, byte for byte.
-/
namespace Ezc3d
open C12 N

/-- the parameter `Parameter::write` leaves blank for `Parameters::write` to fill in (inside POINT) -/
def isDS (p : Param) : Prop := p.name = DATA_START ∧ p.type = .int ∧ hasSize p.dims = 1
instance (p : Param) : Decidable (isDS p) := by unfold isDS; infer_instance

def setDSp (v : Int) (p : Param) : Param := if isDS p then { p with ints := [v] } else p

theorem isDS_prod (p : Param) (h : RecOK p) (hd : isDS p) : p.dims.prod = 1 := by
  have := hasSize_small p.dims h.dims_ne (prod_small p h)
  rw [hd.2.2] at this; omega

theorem setDSp_ok (v : Int) (h1 : -32768 ≤ v) (h2 : v < 32768) (p : Param) (h : RecOK p) : RecOK (setDSp v p) := by
  unfold setDSp
  split
  · next hd =>
    refine { h with values := ?_ }
    unfold ValuesOK
    simp only [hd.2.1, isDS_prod p h hd, List.length_singleton, List.mem_singleton, true_and]
    intro x hx; subst hx; exact ⟨h1, h2⟩
  · exact h

theorem setDSp_name (v : Int) (p : Param) : (setDSp v p).name = p.name := by unfold setDSp; split <;> rfl

theorem setDSp_not (v : Int) (p : Param) (h : ¬ isDS p) : setDSp v p = p := by unfold setDSp; rw [if_neg h]

theorem Param.writeData_true_not_isDS (p : Param) (h : ¬ isDS p) : p.writeData true = p.writeData false := by
  unfold Param.writeData
  have : ¬ (p.name = DATA_START ∧ p.type = PType.int ∧ hasSize p.dims = 1 ∧ True) := by
    intro hh; exact h ⟨hh.1, hh.2.1, hh.2.2.1⟩
  simp only [this, if_false, Bool.false_eq_true, and_false]

theorem Param.write_true_not_isDS (p : Param) (gid : Int) (hp : RecOK p) (h : ¬ isDS p) :
    p.write gid true = .ok (p.recBytes gid, none) := by
  rw [← Param.write_plain p hp gid]
  unfold Param.write
  rw [Param.writeData_true_not_isDS p h]

theorem valBytes_setDS (p : Param) (v : Int) (h : isDS p) : valBytes { p with ints := [v] } = le16 v := by
  simp only [valBytes, h.2.1, List.map_cons, List.map_nil, List.flatten_cons, List.flatten_nil, List.append_nil]

theorem recBytes_setDSp (p : Param) (gid : Int) (h : isDS p) :
    ∃ front back : Bytes, front.length = p.slotOff ∧
      ∀ v : Int, 0 ≤ v → v < 256 → (setDSp v p).recBytes gid = front ++ low8 v :: back := by
  refine ⟨low8 p.nameLen :: low8 gid :: (toUpper p.name ++ (le16N (2 + (1 + (dimBytes p.dims).length) + (2 + 1 + p.desc.length))
    ++ (low8 p.type.code :: dimBytes p.dims))), 0 :: low8N p.desc.length :: p.desc, ?_, fun v h1 h2 => ?_⟩
  · simp only [Param.slotOff, List.length_cons, List.length_append, C03.toUpper_length, le16N, le16_length]; omega
  · rw [setDSp, if_pos h, Param.recBytes_eq, valBytes_setDS p v h, le16_byte v h1 h2]
    show p.recWith gid [low8 v, 0] = _
    simp only [Param.recWith, List.length_cons, List.length_nil, Nat.zero_add, Nat.reduceAdd, List.cons_append, List.nil_append,
      List.append_assoc]

theorem Param.write_true_isDS (p : Param) (gid : Int) (h : isDS p) :
    p.write gid true = .ok ((setDSp 0 p).recBytes gid, some p.slotOff) := by
  have hd : p.writeData true = .ok ([0, 0], some 0) := by
    unfold Param.writeData
    rw [if_pos (by rw [h.2.2]; decide), if_neg (by rw [h.2.1]; decide), if_pos ⟨h.1, h.2.1, h.2.2, rfl⟩]
  rw [Param.write_of_data p gid true _ _ hd, setDSp, if_pos h, Param.recBytes_eq, valBytes_setDS p 0 h]
  rfl

theorem Param.write_setDSp (v : Int) (p : Param) (gid : Int) : (setDSp v p).write gid true = p.write gid true := by
  unfold setDSp
  split
  · next hd =>
    unfold Param.write Param.writeData
    have hs : hasSize p.dims > 0 := by rw [hd.2.2]; decide
    simp only [if_pos hs, hd.2.1, if_neg (show ¬ (PType.int = PType.char) by decide)]
    have hc : (p.name = DATA_START ∧ True ∧ hasSize p.dims = 1 ∧ True) := ⟨hd.1, trivial, hd.2.2, trivial⟩
    simp only [if_pos hc]
  · rfl

def patched (x : UInt8) (bs : Bytes) : Option Nat → Bytes
  | some o => bs.set o x
  | none => bs

/-- `r` succeeds; its slot, if any, lies inside its bytes and is there only if `P`; filling in the low byte of `v` gives `f v` -/
def Fills (r : Res (Bytes × Option Nat)) (f : Int → Bytes) (P : Prop) : Prop :=
  ∃ bs slot, r = .ok (bs, slot) ∧ (∀ o, slot = some o → o < bs.length ∧ P) ∧
    ∀ v : Int, 0 ≤ v → v < 256 → patched (low8 v) bs slot = f v

def seqSlot (r1 r2 : Res (Bytes × Option Nat)) : Res (Bytes × Option Nat) :=
  r1.bind fun (b, s1) => r2.bind fun (bs, s2) => .ok (b ++ bs, match s2 with | some o => some (b.length + o) | none => s1)

theorem writeParamList_cons (gid : Int) (ip : Bool) (p : Param) (t : List Param) :
    writeParamList gid ip (p :: t) = seqSlot (p.write gid ip) (writeParamList gid ip t) := rfl

theorem writeGroupList_cons (g : Group) (rest : List Group) (i : Nat) :
    writeGroupList (g :: rest) i = seqSlot (if g.name = [] then .ok ([], none) else g.write i) (writeGroupList rest (i + 1)) := rfl

theorem patched_length (x : UInt8) (bs : Bytes) (slot : Option Nat) : (patched x bs slot).length = bs.length := by
  cases slot <;> simp [patched]

theorem Fills.plain {r : Res (Bytes × Option Nat)} {a : Bytes} {P : Prop} (h : r = .ok (a, none)) : Fills r (fun _ => a) P :=
  ⟨a, none, h, nofun, fun _ _ _ => rfl⟩

theorem Fills.seq {r1 r2 : Res (Bytes × Option Nat)} {f1 f2 : Int → Bytes} {P1 P2 : Prop}
    (h1 : Fills r1 f1 P1) (h2 : Fills r2 f2 P2) (hne : P1 → P2 → False) {Q : Prop} (hQ : P1 ∨ P2 → Q) :
    Fills (seqSlot r1 r2) (fun v => f1 v ++ f2 v) Q := by
  -- `seqSlot` keeps the second slot when both writers have one; `hne` rules that out, so the one `set` falls in one half
  obtain ⟨b1, s1, e1, hb1, hp1⟩ := h1
  obtain ⟨b2, s2, e2, hb2, hp2⟩ := h2
  cases s2 with
  | none =>
    refine ⟨b1 ++ b2, s1, by rw [seqSlot, e1, e2]; rfl, fun o ho => ⟨by have := (hb1 o ho).1; simp; omega, hQ (.inl (hb1 o ho).2)⟩, fun v v0 v1 => ?_⟩
    show _ = f1 v ++ f2 v
    rw [← hp1 v v0 v1, ← hp2 v v0 v1]
    cases s1 with
    | none => rfl
    | some o => exact List.set_append_left _ _ (hb1 o rfl).1
  | some o2 =>
    have hs1 : s1 = none := by
      cases s1 with
      | none => rfl
      | some o1 => exact (hne (hb1 o1 rfl).2 (hb2 o2 rfl).2).elim
    subst hs1
    refine ⟨b1 ++ b2, some (b1.length + o2), by rw [seqSlot, e1, e2]; rfl, fun o ho => ?_, fun v v0 v1 => ?_⟩
    · cases ho; exact ⟨by have := (hb2 o2 rfl).1; simp; omega, hQ (.inr (hb2 o2 rfl).2)⟩
    · show _ = f1 v ++ f2 v
      rw [← hp1 v v0 v1, ← hp2 v v0 v1]
      exact (List.set_append_right _ _ (Nat.le_add_right _ _)).trans (by rw [Nat.add_sub_cancel_left]; rfl)

theorem Param.write_fills (p : Param) (gid : Int) (hp : RecOK p) :
    Fills (p.write gid true) (fun v => (setDSp v p).recBytes gid) (isDS p) := by
  by_cases hds : isDS p
  · obtain ⟨front, back, hl, he⟩ := recBytes_setDSp p gid hds
    refine ⟨_, _, Param.write_true_isDS p gid hds, fun o ho => ?_, fun v v0 v1 => ?_⟩
    · cases ho
      exact ⟨by rw [he 0 (by decide) (by decide), ← hl]; simp, hds⟩
    · show ((setDSp 0 p).recBytes gid).set p.slotOff (low8 v) = (setDSp v p).recBytes gid
      rw [he 0 (by decide) (by decide), he v v0 v1, ← hl, List.set_append_right _ _ (Nat.le_refl _), Nat.sub_self]
      rfl
  · simp only [setDSp_not _ p hds]
    exact .plain (Param.write_true_not_isDS p gid hp hds)

theorem writeParamList_fills (gid : Int) (ps : List Param) (hok : ∀ p ∈ ps, RecOK p)
    (hd : (ps.map fun p => p.name).Pairwise (· ≠ ·)) :
    Fills (writeParamList gid true ps) (fun v => paramsBytes gid (ps.map (setDSp v))) (∃ q ∈ ps, isDS q) := by
  induction ps with
  | nil => exact .plain rfl
  | cons p t ih =>
    simp only [List.map_cons, List.pairwise_cons] at hd
    have hone : isDS p → (∃ q ∈ t, isDS q) → False := fun h1 ⟨q, hq, h2⟩ =>
      hd.1 q.name (List.mem_map.mpr ⟨q, hq, rfl⟩) (by rw [h1.1, h2.1])
    rw [writeParamList_cons]
    simp only [List.map_cons]
    exact Fills.seq (Param.write_fills p gid (hok p (by simp))) (ih (fun q hq => hok q (by simp [hq])) hd.2) hone (by simp)

def setDSg (v : Int) (g : Group) : Group := if g.name = POINT then { g with params := g.params.map (setDSp v) } else g

theorem setDSg_name (v : Int) (g : Group) : (setDSg v g).name = g.name := by unfold setDSg; split <;> rfl
theorem setDSg_not (v : Int) (g : Group) (h : g.name ≠ POINT) : setDSg v g = g := by unfold setDSg; rw [if_neg h]

theorem setDSg_ok (v : Int) (h1 : -32768 ≤ v) (h2 : v < 32768) (g : Group) (h : GroupRecsOK g) : GroupRecsOK (setDSg v g) := by
  unfold setDSg
  split
  · refine ⟨{ h.head with }, ?_, ?_⟩
    · exact List.forall_mem_map.mpr fun q hq => setDSp_ok v h1 h2 q (h.params q hq)
    · simpa only [List.map_map, Function.comp_def, setDSp_name] using h.distinct
  · exact h

theorem names_distinct_of_upper (ps : List Param) (h : (ps.map fun p => toUpper p.name).Pairwise (· ≠ ·)) :
    (ps.map fun p => p.name).Pairwise (· ≠ ·) := by
  rw [List.pairwise_map] at h ⊢
  exact h.imp (fun hne heq => hne (by rw [heq]))

theorem groupHead_bytes (g : Group) (i : Nat) :
    [low8 (if g.locked then -(g.name.length : Int) else g.name.length), low8 (-((i : Int) + 1))] ++ toUpper g.name
      ++ le16 ((2 : Int) + 1 + g.desc.length) ++ [low8N g.desc.length] ++ g.desc
    = low8 g.nameLen :: low8 (-((i : Int) + 1)) :: g.recTail [] := by
  unfold Group.recTail Group.nameLen le16N Group.offN
  simp

theorem Group.write_eq (g : Group) (i : Nat) :
    g.write i = seqSlot (.ok (low8 g.nameLen :: low8 (-((i : Int) + 1)) :: g.recTail [], none))
      (writeParamList ((i : Int) + 1) (g.name == POINT) g.params) := by
  unfold Group.write seqSlot
  simp only [groupHead_bytes g i, Res.bind_ok]
  congr 1; funext ⟨bs, s⟩; cases s <;> rfl

theorem Group.write_plain (g : Group) (i : Nat) (hok : GroupRecsOK g) (hP : g.name ≠ POINT) :
    g.write i = .ok (groupBytes g i, none) := by
  rw [Group.write_eq, show (g.name == POINT) = false by simp [hP], writeParamList_plain _ _ hok.params]; rfl

theorem Group.write_fills (g : Group) (i : Nat) (hok : GroupRecsOK g) :
    Fills (g.write i) (fun v => groupBytes (setDSg v g) i) (g.name = POINT) := by
  by_cases hP : g.name = POINT
  · rw [Group.write_eq, show (g.name == POINT) = true by simp [hP]]
    simp only [setDSg, if_pos hP]
    exact Fills.seq (.plain rfl : Fills _ _ False) (writeParamList_fills _ g.params hok.params (names_distinct_of_upper _ hok.distinct))
      (fun h _ => h) fun _ => hP
  · simp only [setDSg_not _ g hP]
    exact .plain (Group.write_plain g i hok hP)

theorem writeGroupList_fills (gs : List Group) : ∀ i, (∀ g ∈ gs, g.name ≠ [] → GroupRecsOK g) →
    (gs.map fun g => g.name).Pairwise (· ≠ ·) →
    Fills (writeGroupList gs i) (fun v => groupsBytes (gs.map (setDSg v)) i) (∃ g ∈ gs, g.name = POINT) := by
  induction gs with
  | nil => intro i _ _; exact .plain rfl
  | cons g rest ih =>
    intro i hok hd
    simp only [List.map_cons, List.pairwise_cons] at hd
    have hg : Fills (if g.name = [] then .ok ([], none) else g.write i) (fun v => if g.name = [] then [] else groupBytes (setDSg v g) i)
        (g.name = POINT) := by
      split
      · exact .plain rfl
      · next hn => exact Group.write_fills g i (hok g (by simp) hn)
    simp only [List.map_cons, groupsBytes, setDSg_name]
    have hone : g.name = POINT → (∃ x ∈ rest, x.name = POINT) → False := fun h1 ⟨x, hx, h2⟩ =>
      hd.1 x.name (List.mem_map.mpr ⟨x, hx, rfl⟩) (by rw [h1, h2])
    rw [writeGroupList_cons]
    exact Fills.seq hg (ih (i + 1) (fun x hx => hok x (by simp [hx])) hd.2) hone (by simp)

/-- the 1-based block where the data start, behind a 512-byte header and a section of `n` bytes -/
theorem dataStart_block (n : Nat) : ((512 + n : Nat) : Int) / 512 + 1 = ((n / 512 + 2 : Nat) : Int) := by
  rw [show ((512 + n : Nat) : Int) / 512 = (((512 + n) / 512 : Nat) : Int) from rfl, Nat.add_div_left n (Nat.zero_lt_succ 511)]
  rfl

/-- the two numbers `Parameters::write` patches in, for a section of `n` bytes (whole blocks) behind a 512-byte header -/
theorem section_counts (n : Nat) (h0 : 0 < n) (hm : n % 512 = 0) :
    ((512 + n - 512 - 4 : Nat) : Int) / 512 + (if (512 + n - 512 - 4) % 512 > 0 then 1 else 0) = ((n / 512 : Nat) : Int) ∧
    ((512 + n : Nat) : Int) / 512 + (if (512 + n) % 512 > 0 then 1 else 0) + 1 = ((n / 512 + 2 : Nat) : Int) := by
  constructor
  · rw [Nat.add_sub_cancel_left, ← C03.blockCount_exact n h0 hm, Int.natCast_add, Int.natCast_ediv]
    split <;> rfl
  · rw [Nat.add_mod_left, hm, if_neg (Nat.lt_irrefl 0), Int.add_zero, dataStart_block]

theorem writeParamSection_bytes (ph : PHeader) (gs : List Group) (ps : Bytes)
    (hok : ∀ g ∈ gs, g.name ≠ [] → GroupRecsOK g) (hd : (gs.map fun g => g.name).Pairwise (· ≠ ·))
    (h : writeParamSection ph gs 512 = .ok ps) :
    ∃ (v : Int) (npad : Nat), 0 ≤ v ∧ v < 256 ∧ 1 ≤ npad ∧
      ps = [low8N ph.start, 0x50, low8 ((ps.length / 512 : Nat) : Int), 84] ++ groupsBytes (gs.map (setDSg v)) 0 ++ List.replicate npad 0 ∧
      ps.length % 512 = 0 ∧ 0 < ps.length ∧
      v = ((ps.length / 512 + 2 : Nat) : Int) % 256 := by
  obtain ⟨gb, slot, hw, _, hpatch⟩ := writeGroupList_fills gs 0 hok hd
  obtain ⟨hp1, _, hp3⟩ := C03.padLen_spec (512 + 4 + gb.length)
  unfold writeParamSection at h
  rw [hw] at h
  simp only [Res.bind_ok] at h
  generalize padLen (512 + 4 + gb.length) = npad at h hp1 hp3
  replace h : [low8N ph.start, 0x50, low8 _, 84] ++ patched (low8 _) gb slot ++ List.replicate npad 0 = ps := Res.ok.inj h
  have hn : 4 + gb.length + npad = ps.length := by
    rw [← h, List.length_append, List.length_append, List.length_replicate, patched_length]; rfl
  rw [show 512 + 4 + gb.length + npad = 512 + ps.length by rw [← hn, Nat.add_assoc 512, Nat.add_assoc 512]] at h hp3
  rw [Nat.add_mod_left] at hp3
  have hpos : 0 < ps.length := hn ▸ Nat.lt_of_lt_of_le hp1 (Nat.le_add_left _ _)
  obtain ⟨e1, e2⟩ := section_counts ps.length hpos hp3
  -- `hpatch` speaks of values in [0, 256) only, so the block number goes in as its residue, which has the same low byte
  rw [e1, e2, ← low8_mod (((ps.length / 512 + 2 : Nat) : Int)),
    hpatch _ (Int.emod_nonneg _ (by decide)) (Int.emod_lt_of_pos _ (by decide))] at h
  exact ⟨_, npad, Int.emod_nonneg _ (by decide), Int.emod_lt_of_pos _ (by decide), hp1, h.symm, hp3, hpos, rfl⟩

structure SectionRecs (ph : PHeader) (gs : List Group) (ps pad : Bytes) : Prop where
  whole_blocks : ps.length % 512 = 0
  groups_ok : ∀ g ∈ gs, g.name ≠ [] → GroupRecsOK g
  valid : ∀ r ∈ recsOf gs 0, r.Valid
  bytes : ps = low8N ph.start :: 0x50 :: low8N (ps.length / 512) :: 84 :: (recsBytes (recsOf gs 0) ++ 0 :: pad)
  length : ps.length = 4 + (recsBytes (recsOf gs 0)).length + 1 + pad.length

theorem writeParamSection_recs (ph : PHeader) (gs : List Group) (ps : Bytes)
    (hok : ∀ g ∈ gs, g.name ≠ [] → GroupRecsOK g) (hd : (gs.map fun g => g.name).Pairwise (· ≠ ·)) (hlen : gs.length ≤ 127)
    (h : writeParamSection ph gs 512 = .ok ps) :
    ∃ (v : Int) (pad : Bytes), 0 ≤ v ∧ v < 256 ∧ v = ((ps.length / 512 + 2 : Nat) : Int) % 256 ∧
      SectionRecs ph (gs.map (setDSg v)) ps pad := by
  obtain ⟨v, npad, hv1, hv2, hnp, hpsb, hmod, _, hveq⟩ := writeParamSection_bytes ph gs ps hok hd h
  have hgs : ∀ g ∈ gs.map (setDSg v), g.name ≠ [] → GroupRecsOK g :=
    List.forall_mem_map.mpr fun g hg hne =>
      setDSg_ok v (Int.le_trans (by decide) hv1) (Int.lt_trans hv2 (by decide)) g (hok g hg (setDSg_name v g ▸ hne))
  obtain ⟨n, rfl⟩ : ∃ n, npad = n + 1 := ⟨npad - 1, (Nat.sub_add_cancel hnp).symm⟩
  have hrecs : ps = low8N ph.start :: 0x50 :: low8N (ps.length / 512) :: 84 ::
      (recsBytes (recsOf (gs.map (setDSg v)) 0) ++ 0 :: List.replicate n 0) := by
    rw [recsBytes_recsOf]
    conv => lhs; rw [hpsb]
    simp [List.replicate_succ, low8N]
  refine ⟨v, _, hv1, hv2, hveq, hmod, hgs, valid_recsOf _ 0 (by simpa using hlen) hgs, hrecs, ?_⟩
  clear hveq hmod   -- `omega` would work through their quotient and remainders
  have hl := congrArg List.length hrecs
  simp only [List.length_cons, List.length_append] at hl
  omega

end Ezc3d
