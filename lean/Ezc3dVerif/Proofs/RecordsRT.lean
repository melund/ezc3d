import Ezc3dVerif.Proofs.ParamRead
/-
  Group records and the bytes of whole groups. Reader side: what `Group.read` returns on a group record, and the terminator
  of the chain. Writer side: the plain bytes record by record (`paramsBytes`, `groupBytes`, `groupsBytes`) and what the loader
  holds after them (`readBack`). The chain itself is in AnyOrder.
-/
namespace Ezc3d
open C12 N

structure GroupOK (g : Group) : Prop where
  name_pos : 1 ≤ g.name.length
  name_len : g.name.length ≤ 127
  name_nz : ∀ x ∈ g.name, x ≠ 0
  desc_len : g.desc.length ≤ 255
  desc_nz : ∀ x ∈ g.desc, x ≠ 0

def Group.nameLen (g : Group) : Int := if g.locked then -(g.name.length : Int) else g.name.length
def Group.offN (g : Group) : Nat := 3 + g.desc.length
def Group.recTail (g : Group) (b : Bytes) : Bytes :=
  toUpper g.name ++ (le16N g.offN ++ (low8N g.desc.length :: (g.desc ++ b)))
def Group.recLen (g : Group) : Nat := g.name.length + g.offN

theorem Group.offN_ne_zero (g : Group) : g.offN ≠ 0 := by unfold Group.offN; omega

/-- the group header as the reader rebuilds it on a fresh placeholder -/
def Group.head (g : Group) : Group := { name := toUpper g.name, desc := g.desc, locked := g.locked, params := [] }

theorem Group.recTail_length (g : Group) (b : Bytes) : (g.recTail b).length = g.recLen + b.length := by
  simp only [Group.recTail, Group.recLen, Group.offN, List.length_append, List.length_cons, le16N, le16_length, C03.toUpper_length]
  omega

theorem Group.recTail_append (g : Group) (b : Bytes) : g.recTail [] ++ b = g.recTail b := by
  unfold Group.recTail; simp

theorem Group_read_onto (g0 g : Group) (h : GroupOK g) (s : InStream) (b : Bytes)
    (hf : s.failed = false) (hs : s.Sync) (hlen : s.len + 2 < two31) (hr : s.rest = g.recTail b) :
    Group.read g0 g.nameLen s = .ok (({ g0 with name := toUpper g.name, locked := g.locked, desc := if g.desc = [] then g0.desc else g.desc },
      ((s.pos + g.recLen : Nat) : Int)), s.adv b g.recLen) := by
  have hoff : g.offN < 65536 := by have := h.desc_len; unfold Group.offN; omega
  unfold Group.read
  conv => lhs; rw [← adv_zero s, hr, Group.recTail]
  rw [recHead_rt g.nameLen (toUpper g.name) g.offN _ (signedLen_natAbs_upper _ _)
    (C03.toUpper_nz g.name h.name_nz) hoff s 0 hf]
  refine (desc_rt _ (fun (x : Group) t => { x with desc := t }) g.desc b h.desc_len h.desc_nz s _ hf _).trans ?_
  rw [SR.pure_apply, Nat.zero_add, C03.toUpper_length,
    nextPos_rec s _ _ _ hf hs hlen g.offN_ne_zero (by rw [hr, Group.recTail_length]; exact Nat.le_add_right _ _),
    show decide (g.nameLen < 0) = g.locked from signedLen_neg g.locked g.name.length h.name_pos,
    show g.name.length + 2 + (1 + g.desc.length) = g.recLen by unfold Group.recLen Group.offN; omega]
  split <;> rfl

theorem readRecords_terminator (fuel : Nat) (s : InStream) (gs : List Group) (b : Bytes)
    (hso : StreamOK s) (hr : s.rest = 0 :: b) :
    readRecords (fuel + 1) s (s.pos : Int) gs = .ok (gs, s.adv b 1) := by
  rw [readRecords]
  have := hso.pos
  rw [if_neg (by omega), tell_live s hso.live, if_neg (by simp)]
  conv => lhs; rw [← adv_zero s, hr]
  rw [adv_readSByte s 0 b 0 hso.live, show hex2int [(0 : UInt8)] = 0 from hex2int_zeros 1]
  simp

def paramsBytes (gid : Int) (ps : List Param) : Bytes := (ps.map (fun p => p.recBytes gid)).flatten

theorem paramsBytes_cons (gid : Int) (p : Param) (t : List Param) : paramsBytes gid (p :: t) = p.recBytes gid ++ paramsBytes gid t := rfl

theorem writeParamList_plain (gid : Int) (ps : List Param) (h : ∀ p ∈ ps, RecOK p) :
    writeParamList gid false ps = .ok (paramsBytes gid ps, none) := by
  induction ps with
  | nil => rfl
  | cons p t ih =>
    unfold writeParamList
    rw [Param.write_plain p (h p (by simp)) gid, ih (fun q hq => h q (by simp [hq]))]
    simp [paramsBytes]

/-- the group as the loader holds it after its own record and those of its parameters -/
def Group.normG (g : Group) : Group := { name := toUpper g.name, desc := g.desc, locked := g.locked, params := g.params.map Param.norm }

def groupBytes (g : Group) (i : Nat) : Bytes :=
  low8 g.nameLen :: low8 (-((i : Int) + 1)) :: g.recTail [] ++ paramsBytes ((i : Int) + 1) g.params

/-- the records of the named groups, in order; position in the list = group id - 1 -/
def groupsBytes : List Group → Nat → Bytes
  | [], _ => []
  | g :: rest, i => (if g.name = [] then [] else groupBytes g i) ++ groupsBytes rest (i + 1)

theorem groupsBytes_append_shift (g : Group) (rest : List Group) (i : Nat) :
    groupsBytes (g :: rest) i = (if g.name = [] then [] else groupBytes g i) ++ groupsBytes rest (i + 1) := rfl

/-- the table after the writer's records: unnamed groups are not written, so the ids they skip are filled with placeholders
    (`replicate (i - acc.length)`) when the next named group arrives -/
def readBack : List Group → Nat → List Group → List Group
  | [], _, acc => acc
  | g :: rest, i, acc =>
    if g.name = [] then readBack rest (i + 1) acc
    else readBack rest (i + 1) ((acc ++ List.replicate (i - acc.length) ({} : Group)) ++ [g.normG])

theorem readBack_named (gs : List Group) : ∀ (i : Nat) (acc : List Group), (∀ g ∈ gs, g.name ≠ []) → acc.length = i →
    readBack gs i acc = acc ++ gs.map Group.normG := by
  induction gs with
  | nil => intro i acc _ _; simp [readBack]
  | cons g rest ih =>
    intro i acc hn hl
    simp only [readBack, if_neg (hn g (by simp)), hl, Nat.sub_self, List.replicate_zero, List.append_nil]
    rw [ih (i + 1) (acc ++ [g.normG]) (fun x hx => hn x (by simp [hx])) (by rw [List.length_append, hl]; rfl)]
    simp

def recCount : List Group → Nat
  | [] => 0
  | g :: rest => (if g.name = [] then 0 else 1 + g.params.length) + recCount rest

structure GroupRecsOK (g : Group) : Prop where
  head : GroupOK g
  params : ∀ p ∈ g.params, RecOK p
  distinct : (g.params.map fun p => toUpper p.name).Pairwise (· ≠ ·)   -- upper-cased as in the file: the loader's `addParam` replaces by name

end Ezc3d
