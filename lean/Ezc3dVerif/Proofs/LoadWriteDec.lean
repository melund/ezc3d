import Ezc3dVerif.Proofs.LoadWrite
/-
  The hypotheses of `load_write` as one decidable proposition (so that the driver can evaluate them on the
  states the correspondence check visits, and `decide` can exhibit a state inside the theorem's domain).
-/
namespace Ezc3d
open C12 N

instance (w : Nat) (s : Bytes) : Decidable (StrOK w s) := by unfold StrOK; infer_instance

instance {α} (l : List α) (P : α → Prop) [DecidablePred P] : Decidable (∃ s, l = [s] ∧ P s) :=
  match l with
  | [s] => decidable_of_iff (P s) ⟨fun h => ⟨s, rfl, h⟩, fun ⟨_, e, h⟩ => by cases e; exact h⟩
  | [] => isFalse (by rintro ⟨_, e, _⟩; cases e)
  | _ :: _ :: _ => isFalse (by rintro ⟨_, e, _⟩; cases e)

instance (p : Param) : Decidable (ValuesOK p) := by
  unfold ValuesOK
  cases p.type <;> simp only <;> infer_instance

instance (p : Param) : Decidable (RecOK p) :=
  decidable_of_iff (1 ≤ p.name.length ∧ p.name.length ≤ 127 ∧ (∀ x ∈ p.name, x ≠ 0) ∧ p.desc.length ≤ 255 ∧ (∀ x ∈ p.desc, x ≠ 0) ∧
      p.dims ≠ [] ∧ p.dims.length ≤ 255 ∧ (∀ d ∈ p.dims, d ≤ 255) ∧ p.type.size * p.dims.prod ≤ 30000 ∧ (p.dims.drop 1).prod ≤ 30000 ∧ ValuesOK p)
    ⟨fun ⟨a, b, c, d, e, f, g, h, i, j, k⟩ => ⟨a, b, c, d, e, f, g, h, i, j, k⟩,
     fun h => ⟨h.name_pos, h.name_len, h.name_nz, h.desc_len, h.desc_nz, h.dims_ne, h.dims_len, h.dims_small, h.bytes_small, h.count_small, h.values⟩⟩

instance (g : Group) : Decidable (GroupOK g) :=
  decidable_of_iff (1 ≤ g.name.length ∧ g.name.length ≤ 127 ∧ (∀ x ∈ g.name, x ≠ 0) ∧ g.desc.length ≤ 255 ∧ (∀ x ∈ g.desc, x ≠ 0))
    ⟨fun ⟨a, b, c, d, e⟩ => ⟨a, b, c, d, e⟩, fun h => ⟨h.name_pos, h.name_len, h.name_nz, h.desc_len, h.desc_nz⟩⟩

instance (g : Group) : Decidable (GroupRecsOK g) :=
  decidable_of_iff (GroupOK g ∧ (∀ p ∈ g.params, RecOK p) ∧ (g.params.map fun p => toUpper p.name).Pairwise (· ≠ ·))
    ⟨fun ⟨a, b, c⟩ => ⟨a, b, c⟩, fun h => ⟨h.head, h.params, h.distinct⟩⟩

instance (s : Bytes) : Decidable (LabelOK s) := by unfold LabelOK; infer_instance

instance (h : Header) : Decidable (HdrOK h) :=
  decidable_of_iff (h.nbPoints < 65536 ∧ h.nbAnalogsMeas < 65536 ∧ h.firstFrame + 1 < 65536 ∧ u64 (h.lastFrame + 1) < 65536 ∧
      h.lastFrame < two64 ∧ h.maxGap < 65536 ∧ -2147483648 ≤ h.scale ∧ h.scale < 2147483648 ∧ h.nbAnalogByFrame < 65536 ∧
      h.empty1 = 0 ∧ h.empty2 = 0 ∧ h.empty3 = 0 ∧ h.empty4 = 0 ∧ h.keyLabelPresent < 65536 ∧ h.firstBlockKeyLabel < 65536 ∧
      h.fourCharPresent < 65536 ∧ h.nbEvents < 65536 ∧ h.evTimes.length = 18 ∧ h.evDisplay.length = 9 ∧ (∀ d ∈ h.evDisplay, d < 65536) ∧
      h.evLabels.length = 18 ∧ (∀ x ∈ h.evLabels, LabelOK x))
    ⟨fun ⟨a1, a2, a3, a4, a5, a6, a7, a8, a9, a10, a11, a12, a13, a14, a15, a16, a17, a18, a19, a20, a21, a22⟩ =>
        ⟨a1, a2, a3, a4, a5, a6, a7, a8, a9, a10, a11, a12, a13, a14, a15, a16, a17, a18, a19, a20, a21, a22⟩,
     fun k => ⟨k.np, k.nam, k.ff, k.lf, k.lf64, k.gap, k.scale1, k.scale2, k.abf, k.e1, k.e2, k.e3, k.e4, k.klp, k.fbk, k.fcp, k.nev,
        k.times, k.displen, k.disp, k.lablen, k.labels⟩⟩

instance (np nsf nch : Nat) (f : Frame) : Decidable (f.hasShape np nsf nch) := by unfold Frame.hasShape; infer_instance

def LoadWriteHyps (F : FloatOps) (s : C3D) (b ps : Bytes) (pl al : List Bytes) : Prop :=
  writeParamSection s.ph s.groups 512 = .ok ps ∧ s.write = .ok b ∧
  HdrOK s.hdr ∧ s.ph.start = 1 ∧
  (∀ g ∈ s.groups, g.name ≠ []) ∧ (∀ g ∈ s.groups, GroupRecsOK g) ∧
  (s.groups.map fun g => g.name).Pairwise (· ≠ ·) ∧ s.groups.length ≤ 127 ∧
  ps.length / 512 < 256 ∧ b.length + 2 < two31 ∧
  updateHeaderH F (s.reloaded ps.length pl al).groups [] (s.reloaded ps.length pl al).hdr = .ok (s.reloaded ps.length pl al).hdr ∧
  s.hdr.nbFrames = s.frames.length ∧ s.frames.length ≤ 65536 ∧
  (if s.hdr.nbPoints > 0 then strsOf (s.reloaded ps.length pl al).groups POINT LABELS else .ok []) = .ok pl ∧
  (if s.hdr.nbAnalogs > 0 then strsOf (s.reloaded ps.length pl al).groups ANALOG LABELS else .ok []) = .ok al ∧
  s.hdr.scale < 0 ∧ s.hdr.nbAnalogs < 65536 ∧
  (∀ f ∈ s.frames, f.hasShape s.hdr.nbPoints s.hdr.nbAnalogByFrame s.hdr.nbAnalogs)

instance (F : FloatOps) (s : C3D) (b ps : Bytes) (pl al : List Bytes) : Decidable (LoadWriteHyps F s b ps pl al) := by
  unfold LoadWriteHyps; infer_instance

end Ezc3d
