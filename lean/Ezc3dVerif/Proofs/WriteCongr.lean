import Ezc3dVerif.Properties.C03
/-
  The writer goes through an object layer by layer (parameters of a group, groups, file), and at each layer
  the bytes are put together from what the layer below returned. So two objects are written alike as soon as
  their parts are, whatever else differs: each statement "the writer ignores …" is this, plus what one record depends on
  (`Param.write_congr`).
-/
namespace Ezc3d

namespace C14

inductive All2 {α β : Type} (R : α → β → Prop) : List α → List β → Prop
  | nil : All2 R [] []
  | cons {a b l m} : R a b → All2 R l m → All2 R (a :: l) (b :: m)

theorem All2.imp {α β : Type} {R S : α → β → Prop} {l : List α} {m : List β} (h : All2 R l m) (hRS : ∀ a b, R a b → S a b) :
    All2 S l m := by
  induction h with
  | nil => exact .nil
  | cons hab _ ih => exact .cons (hRS _ _ hab) ih

theorem All2.map_left {α : Type} {R : α → α → Prop} (f : α → α) : ∀ l : List α, (∀ a ∈ l, R (f a) a) → All2 R (l.map f) l
  | [], _ => .nil
  | a :: t, h => .cons (h a (by simp)) (All2.map_left f t fun x hx => h x (by simp [hx]))

end C14

open C14 N

def Param.SameValues (p q : Param) : Prop :=
  p.type = q.type ∧ p.dims = q.dims ∧
  (match p.type with
   | .char => p.strs = q.strs
   | .byte | .int => p.ints = q.ints
   | .float => p.floats = q.floats
   | .none => True)

theorem writeValues_congr {p q : Param} (h : p.SameValues q) (count : Nat) : p.writeValues count = q.writeValues count := by
  obtain ⟨ht, hd, hv⟩ := h
  unfold Param.writeValues
  rw [← ht, ← hd]
  cases hpt : p.type <;> rw [hpt] at hv <;> simp only at hv ⊢ <;> first | rw [hv] | rfl

theorem writeData_congr {p q : Param} (h : p.SameValues q) (hn : p.name = DATA_START ↔ q.name = DATA_START) (ip : Bool) :
    p.writeData ip = q.writeData ip := by
  have hw := writeValues_congr h
  obtain ⟨ht, hd, hv⟩ := h
  unfold Param.writeData
  rw [← ht, ← hd, hw, hw]
  by_cases hc : p.type = .char
  · rw [hc] at hv
    simp only [hc, if_true, show p.strs = q.strs from hv]
  · simp only [hc, if_false, hn]

theorem Param.write_congr {p q : Param} (h : p.SameValues q) (hn : p.name = DATA_START ↔ q.name = DATA_START)
    (hu : toUpper p.name = toUpper q.name) (hdesc : p.desc = q.desc) (hl : p.locked = q.locked) (gid : Int) (ip : Bool) :
    p.write gid ip = q.write gid ip := by
  have hlen : p.name.length = q.name.length := by rw [← C03.toUpper_length, hu, C03.toUpper_length]
  unfold Param.write
  rw [writeData_congr h hn ip, hu, hlen, hdesc, hl, h.1, h.2.1]

theorem writeParamList_congr (gid : Int) (ip : Bool) {ps qs : List Param}
    (h : All2 (fun p q => p.write gid ip = q.write gid ip) ps qs) : writeParamList gid ip ps = writeParamList gid ip qs := by
  induction h with
  | nil => rfl
  | cons hpq _ ih => simp only [writeParamList, hpq, ih]

theorem writeGroupList_congr {gs ks : List Group}
    (h : All2 (fun g k => (g.name = [] ↔ k.name = []) ∧ ∀ i, g.write i = k.write i) gs ks) :
    ∀ i, writeGroupList gs i = writeGroupList ks i := by
  induction h with
  | nil => intro i; rfl
  | cons hgk _ ih => intro i; simp only [writeGroupList, hgk.1, hgk.2, ih]

theorem C3D.write_congr {s t : C3D} (hh : ∀ x, s.hdr.write x = t.hdr.write x) (hp : s.ph.start = t.ph.start)
    (hg : All2 (fun g k => (g.name = [] ↔ k.name = []) ∧ ∀ i, g.write i = k.write i) s.groups t.groups)
    (hf : writeData s.frames = writeData t.frames) : s.write = t.write := by
  unfold C3D.write writeParamSection
  rw [writeGroupList_congr hg 0, hp, hf]
  simp only [hh]

end Ezc3d
