import Ezc3dVerif.Proofs.Lookup
/-
  `Mand`, the structural invariant the updaters rely on: the mandatory POINT / ANALOG parameters (`slots`) exist and have the type
  (and non-emptiness) the unchecked `valuesAsX()[0]` reads assume. What it gives: every typed read of a mandatory slot succeeds and
  every slot has a position. What keeps it: an in-place rewrite that respects the kind of the slot (`Mand_modParam`), a lock toggle.
  That the updaters complete under it and re-establish it is in Proofs/Updaters.lean.
-/
namespace Ezc3d
open N

inductive Kind | intNE | floatNE | str | any | floats | ints
  deriving DecidableEq

def Kind.ok : Kind → Param → Prop
  | .intNE, q => q.type = .int ∧ q.ints ≠ []
  | .floatNE, q => q.type = .float ∧ q.floats ≠ []
  | .str, q => q.type = .char
  | .any, _ => True
  | .floats, q => q.type = .float
  | .ints, q => q.type = .int

/-- the parameters `updateHeader` / `updateParameters` read or rewrite. The kind is about what is READ of a slot: POINT:UNITS and
    the two DESCRIPTIONS are only overwritten (`.any`), ANALOG:UNITS is read as strings before it is extended (`.str`) -/
def slots : List (Bytes × Bytes × Kind) :=
  [ (POINT, USED, .intNE), (POINT, FRAMES, .intNE), (POINT, RATE, .floatNE), (POINT, LABELS, .str),
    (POINT, DESCRIPTIONS, .any), (POINT, UNITS, .any),
    (ANALOG, USED, .intNE), (ANALOG, RATE, .floatNE), (ANALOG, LABELS, .str), (ANALOG, DESCRIPTIONS, .any),
    (ANALOG, SCALE, .floats), (ANALOG, OFFSET, .ints), (ANALOG, UNITS, .str) ]

def Mand (gs : List Group) : Prop :=
  ∀ s ∈ slots, ∃ q, getParam gs s.1 s.2.1 = .ok q ∧ s.2.2.ok q

/-- makes `Mand` of a concrete tree decidable (`C05.init_Mand`, by `decide +kernel`) -/
instance {α} (r : Res α) (P : α → Prop) [DecidablePred P] : Decidable (∃ q, r = .ok q ∧ P q) :=
  match r with
  | .ok q => decidable_of_iff (P q) ⟨fun h => ⟨q, rfl, h⟩, fun ⟨_, e, h⟩ => Res.ok.inj e ▸ h⟩
  | .throw _ => isFalse fun ⟨_, e, _⟩ => nomatch e
  | .ub _ => isFalse fun ⟨_, e, _⟩ => nomatch e

instance (k : Kind) : DecidablePred k.ok := by
  cases k <;> unfold Kind.ok <;> infer_instance

theorem Mand.get {gs : List Group} (h : Mand gs) {g p : Bytes} {k : Kind} (hm : (g, p, k) ∈ slots) :
    ∃ q, getParam gs g p = .ok q ∧ k.ok q := h (g, p, k) hm

theorem Mand.int0 {gs : List Group} (h : Mand gs) {g p : Bytes} (hm : (g, p, Kind.intNE) ∈ slots) :
    ∃ v, Ezc3d.int0 gs g p = .ok v := by
  obtain ⟨q, hq, ht, hne⟩ := h.get hm
  unfold Ezc3d.int0
  simp only [hq, Res.bind_ok, Param.asInt, ht, if_true]
  cases hi : q.ints with
  | nil => exact absurd hi hne
  | cons a t => exact ⟨a, by simp [atIdx]⟩

theorem Mand.float0 {gs : List Group} (h : Mand gs) {g p : Bytes} (hm : (g, p, Kind.floatNE) ∈ slots) :
    ∃ v, Ezc3d.float0 gs g p = .ok v := by
  obtain ⟨q, hq, ht, hne⟩ := h.get hm
  unfold Ezc3d.float0
  simp only [hq, Res.bind_ok, Param.asFloat, ht, if_true]
  cases hi : q.floats with
  | nil => exact absurd hi hne
  | cons a t => exact ⟨a, by simp [atIdx]⟩

theorem Mand.strsOf {gs : List Group} (h : Mand gs) {g p : Bytes} (hm : (g, p, Kind.str) ∈ slots) :
    ∃ v, strsOf gs g p = .ok v := by
  obtain ⟨q, hq, hk⟩ := h.get hm
  have : q.type = .char := hk
  unfold Ezc3d.strsOf
  simp [hq, Param.asString, this]

theorem Mand.gpIdx {gs : List Group} (h : Mand gs) {g p : Bytes} {k : Kind} (hm : (g, p, k) ∈ slots) :
    ∃ a, Ezc3d.gpIdx gs g p = .ok a := by
  obtain ⟨q, hq, _⟩ := h.get hm
  obtain ⟨gi, pi, hidx, _⟩ := getParam_ok_iff.mp hq
  exact ⟨_, hidx⟩

/-- the typed read of a mandatory slot at the position found succeeds, if `get` accepts the slot's kind -/
theorem Mand.readAt {gs : List Group} (h : Mand gs) {g p : Bytes} {k : Kind} (hm : (g, p, k) ∈ slots) {gi gi' pi : Nat}
    (hidx : Ezc3d.gpIdx gs g p = .ok (gi', pi)) (hg : groupIdx gs g = .ok gi) {α} {get : Param → Res α}
    (hget : ∀ q, k.ok q → ∃ a, get q = .ok a) :
    ∃ a, ((atIdx gs gi).bind fun grp => (atIdx grp.params pi).bind get) = .ok a := by
  obtain ⟨q, hq, hk⟩ := h.get hm
  obtain ⟨q', hq', hc⟩ := gpIdx_ok_getParam (Ezc3d.gpIdx_at hidx hg)
  rw [hq] at hq'; cases hq'
  rw [cell_bind, hc]
  exact hget q hk

theorem Mand.group {gs : List Group} (h : Mand gs) {g p : Bytes} {k : Kind} (hm : (g, p, k) ∈ slots) :
    ∃ gi grp, groupIdx gs g = .ok gi ∧ byName Group.name gs g = .ok grp ∧ grp.params.length ≠ 0 := by
  obtain ⟨q, hq, _⟩ := h.get hm
  obtain ⟨gi, pi, hidx, _⟩ := getParam_ok_iff.mp hq
  obtain ⟨grp, hgi, hgrp, _⟩ := gpIdx_ok_inv hidx
  have hb : byName Group.name gs g = .ok grp := (byName_of_nameIdx hgi).trans hgrp
  exact ⟨gi, grp, hgi, hb, getParam_nonempty hq grp hb⟩

theorem Mand_modParam {gs : List Group} (h : Mand gs) (g0 p0 : Bytes) (gi pi : Nat) (f : Param → Param)
    (hn : ∀ q, (f q).name = q.name) (hidx : Ezc3d.gpIdx gs g0 p0 = .ok (gi, pi))
    (hkeep : ∀ k, (g0, p0, k) ∈ slots → ∀ q, k.ok q → k.ok (f q)) :
    Mand (modParam gs gi pi f) := by
  intro s hs
  obtain ⟨q, hq, hk⟩ := h s hs
  rw [getParam_modParam gs g0 p0 gi pi f hn hidx]
  split
  next hc =>
    obtain ⟨g, p, k⟩ := s
    obtain ⟨rfl, rfl⟩ := hc
    exact ⟨f q, by rw [hq]; rfl, hkeep k hs q hk⟩
  next => exact ⟨q, hq, hk⟩

theorem Mand_lock {gs : List Group} (hM : Mand gs) (gi : Nat) (v : Bool) :
    Mand (gs.modify gi fun x => { x with locked := v }) := by
  intro s hs
  obtain ⟨q, hq, hk⟩ := hM s hs
  exact ⟨q, by rw [getParam_lock]; exact hq, hk⟩

theorem slot_kind (g p : Bytes) (k k' : Kind) (h : (g, p, k) ∈ slots) (h' : (g, p, k') ∈ slots) : k = k' :=
  congrArg (·.2.2) (eq_of_mem_of_nodup_keys (fun s : Bytes × Bytes × Kind => (s.1, s.2.1)) (by decide +kernel) h h' rfl)

-- `mem_slots_XY`: X the group, Y the parameter by its initial (N for UNITS)
theorem mem_slots_PU : (POINT, USED, Kind.intNE) ∈ slots := List.mem_of_getElem? (i := 0) rfl
theorem mem_slots_PF : (POINT, FRAMES, Kind.intNE) ∈ slots := List.mem_of_getElem? (i := 1) rfl
theorem mem_slots_PR : (POINT, RATE, Kind.floatNE) ∈ slots := List.mem_of_getElem? (i := 2) rfl
theorem mem_slots_PL : (POINT, LABELS, Kind.str) ∈ slots := List.mem_of_getElem? (i := 3) rfl
theorem mem_slots_PD : (POINT, DESCRIPTIONS, Kind.any) ∈ slots := List.mem_of_getElem? (i := 4) rfl
theorem mem_slots_PN : (POINT, UNITS, Kind.any) ∈ slots := List.mem_of_getElem? (i := 5) rfl
theorem mem_slots_AU : (ANALOG, USED, Kind.intNE) ∈ slots := List.mem_of_getElem? (i := 6) rfl
theorem mem_slots_AR : (ANALOG, RATE, Kind.floatNE) ∈ slots := List.mem_of_getElem? (i := 7) rfl
theorem mem_slots_AL : (ANALOG, LABELS, Kind.str) ∈ slots := List.mem_of_getElem? (i := 8) rfl
theorem mem_slots_AD : (ANALOG, DESCRIPTIONS, Kind.any) ∈ slots := List.mem_of_getElem? (i := 9) rfl
theorem mem_slots_AS : (ANALOG, SCALE, Kind.floats) ∈ slots := List.mem_of_getElem? (i := 10) rfl
theorem mem_slots_AO : (ANALOG, OFFSET, Kind.ints) ∈ slots := List.mem_of_getElem? (i := 11) rfl
theorem mem_slots_AN : (ANALOG, UNITS, Kind.str) ∈ slots := List.mem_of_getElem? (i := 12) rfl

end Ezc3d
