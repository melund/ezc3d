import Ezc3dVerif.Proofs.Outcome
import Ezc3dVerif.Proofs.ByName
/-
  `c3d::parameter(group, p)` and the look-ups.  Both levels of the edit are the same loop (`upsert`: replace the first element
  of that name, else append): the parameter inside its group, and the group — found, or appended blank — inside the tree.
  Hence what a look-up by name finds afterwards: the stored element under its own name, what it found before under any other.
-/
namespace Ezc3d
open N

theorem insertParam_ok_inv {gs gs' : List Group} {g : Bytes} {p : Param} (h : insertParam gs g p = .ok gs') :
    ∃ gs1 gi grp, (gs1 = gs ∨ groupIdx gs g = .throw .invalid_argument ∧ gs1 = gs ++ [{ name := g }]) ∧
      groupIdx gs1 g = .ok gi ∧ gs1[gi]? = some grp ∧ p.type ≠ .none ∧ gs' = gs1.set gi (grp.putParam p) := by
  unfold insertParam at h
  obtain ⟨gi, hgi, h⟩ := Res.bind_ok_iff.mp h
  obtain ⟨grp, hgrp, h⟩ := Res.bind_ok_iff.mp h
  obtain ⟨grp', hadd, h⟩ := Res.bind_ok_iff.mp h
  rw [addParam_eq] at hadd
  split at hadd; · cases hadd
  cases hadd; cases h
  refine ⟨_, gi, grp, ?_, hgi, atIdx_eq_ok_iff.mp hgrp, ‹_›, rfl⟩
  unfold groupIdx nameIdx
  cases gs.findIdx? (fun a => a.name == g) with
  | some _ => exact .inl rfl
  | none => exact .inr ⟨rfl, rfl⟩

theorem getParam_insertParam {gs gs' : List Group} {g : Bytes} {p : Param} (h : insertParam gs g p = .ok gs') (g1 p1 : Bytes) :
    getParam gs' g1 p1 = if g1 = g ∧ p1 = p.name then .ok p else getParam gs g1 p1 := by
  obtain ⟨gs1, gi, grp, hgs1, hgi, hgrp, _, rfl⟩ := insertParam_ok_inv h
  -- a blank group appended at the end answers no look-up that did not fail before
  have h0 : getParam gs1 g1 p1 = getParam gs g1 p1 := by
    rcases hgs1 with rfl | ⟨hno, rfl⟩
    · rfl
    · have happ : gs ++ [({ name := g } : Group)] = upsert Group.name { name := g } gs := by
        rw [← upsert_eq, (nameIdx_eq_throw_iff.mp hno).2]
      unfold getParam
      rw [happ, byName_upsert]
      by_cases hg1 : g = g1
      · subst hg1; rw [if_pos rfl, byName, show nameIdx Group.name gs g = _ from hno]; rfl
      · rw [if_neg hg1]
  rw [← h0]
  -- storing the group back at the index where its name was found is an `upsert` as well
  obtain ⟨grp', hgrp', hg⟩ := nameIdx_ok_inv hgi
  obtain rfl : grp' = grp := Option.some.inj ((atIdx_eq_ok_iff.mp hgrp').symm.trans hgrp)
  have hn : (grp'.putParam p).name = g := by rw [putParam_eq]; exact hg
  have hset : gs1.set gi (grp'.putParam p) = upsert Group.name (grp'.putParam p) gs1 := by
    rw [← upsert_eq, hn, nameIdx_eq_ok_iff.mp hgi]
  have hby : byName Group.name gs1 g = .ok grp' := (byName_of_nameIdx hgi).trans hgrp'
  unfold getParam
  rw [hset, byName_upsert, hn]
  by_cases hg1 : g = g1
  · subst hg1
    simp only [if_true, true_and, hby, Res.bind_ok, byName_putParam, eq_comm]
  · rw [if_neg hg1, if_neg fun h => hg1 h.1.symm]

theorem getParam_insertParam_other (gs gs' : List Group) (g : Bytes) (p : Param) (g1 p1 : Bytes)
    (h : insertParam gs g p = .ok gs') (hne : ¬ (g1 = g ∧ p1 = p.name)) :
    getParam gs' g1 p1 = getParam gs g1 p1 := by
  rw [getParam_insertParam h, if_neg hne]

end Ezc3d
