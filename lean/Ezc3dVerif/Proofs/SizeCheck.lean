import Ezc3dVerif.Proofs.ParamRT
/-
  The size check of `Parameter::read`: two running products over the dimensions, in 64-bit arithmetic, compared
  with the bytes left in the file at every step. On a record whose values are in the file neither product wraps,
  and the check yields the number of values (`sizeOk_record`).
-/
namespace Ezc3d
open C12 N

/-- product of the dimensions that count values (the first one is the string length when `fil`) -/
def countedProd (fil : Bool) : Nat → List Nat → Nat
  | _, [] => 1
  | i, d :: rest => (if i > 0 ∨ fil = false then d else 1) * countedProd fil (i + 1) rest

theorem countedProd_eq_prod (fil : Bool) (dims : List Nat) : ∀ i, i > 0 ∨ fil = false → countedProd fil i dims = dims.prod := by
  induction dims with
  | nil => intro i _; rfl
  | cons d t ih => intro i h; rw [countedProd, if_pos h, ih (i + 1) (.inl (Nat.succ_pos i)), List.prod_cons]

/-- one running product of the size check: while the factors still to come are not 0 and the final value
    fits, a step neither wraps nor overshoots -/
theorem sizeOk_prod_step (n c r lim : Nat) (hlim : lim < two64) (hr : n = 0 ∨ r ≠ 0) (h : n * (c * r) ≤ lim) :
    (if n ≠ 0 then u64 (n * c) else n) = n * c ∧ n * c ≤ lim := by
  by_cases h0 : n = 0
  · simp [h0]
  · have : n * c ≤ lim := Nat.le_trans (Nat.le_mul_of_pos_right _ (Nat.pos_of_ne_zero (hr.resolve_left h0))) (Nat.mul_assoc .. ▸ h)
    exact ⟨by rw [if_pos h0, u64_small _ (by omega)], this⟩

/-- the check from any point of its run, `nB` bytes and `nV` values counted so far -/
theorem sizeOk_ok (rem : Nat) (fil : Bool) (hrem : rem + 0xFFFF < two64) : ∀ (dims : List Nat) (i nB nV : Nat),
    (nB = 0 ∨ dims.prod ≠ 0) → (nV = 0 ∨ countedProd fil i dims ≠ 0) →
    nB * dims.prod ≤ rem → nV * countedProd fil i dims ≤ rem + 0xFFFF →
    sizeOk rem fil dims i nB nV = some (nV * countedProd fil i dims) := by
  intro dims
  induction dims with
  | nil => intro i nB nV _ _ _ _; simp [sizeOk, countedProd]
  | cons d t ih =>
    intro i nB nV hB hV hb hv
    rw [countedProd] at hV hv ⊢
    have hBt : nB = 0 ∨ t.prod ≠ 0 := hB.imp_right fun h => (Nat.mul_ne_zero_iff.mp h).2
    have hVt : nV = 0 ∨ countedProd fil (i + 1) t ≠ 0 := hV.imp_right fun h => (Nat.mul_ne_zero_iff.mp h).2
    obtain ⟨eB, lB⟩ := sizeOk_prod_step nB d t.prod rem (by omega) hBt hb
    obtain ⟨eV, lV⟩ := sizeOk_prod_step nV _ _ (rem + 0xFFFF) hrem hVt hv
    -- the value count is multiplied only where `countedProd` has the factor `d`
    have eV' : (if nV ≠ 0 ∧ (i > 0 ∨ (!fil) = true) then u64 (nV * d) else nV) = nV * (if i > 0 ∨ fil = false then d else 1) := by
      by_cases hc : i > 0 ∨ fil = false
      · rw [if_pos hc] at eV ⊢
        have hc' : i > 0 ∨ (!fil) = true := by simpa using hc
        simpa only [hc', and_true] using eV
      · rw [if_neg hc, Nat.mul_one, if_neg]; simpa using fun _ => hc
    -- the invariant for the rest of the run: a count that is 0 stays 0, and the products ahead have lost the factor taken
    have hB' : nB * d = 0 ∨ t.prod ≠ 0 := hBt.imp_left fun h => by rw [h, Nat.zero_mul]
    have hV' : nV * (if i > 0 ∨ fil = false then d else 1) = 0 ∨ countedProd fil (i + 1) t ≠ 0 := hVt.imp_left fun h => by rw [h, Nat.zero_mul]
    unfold sizeOk
    rw [eB, eV', if_neg (by omega), ih (i + 1) _ _ hB' hV' (by rwa [Nat.mul_assoc]) (by rwa [Nat.mul_assoc]), Nat.mul_assoc]

/-- the `firstIsLength` of `Param.read` -/
def Param.fil (p : Param) : Bool := p.type == .char && decide (p.dims.length > 1)
def Param.nValues (p : Param) : Nat := countedProd p.fil 0 p.dims

theorem any_zero_iff (dims : List Nat) : dims.any (· == 0) = true ↔ dims.prod = 0 := by
  simp only [List.any_eq_true, beq_iff_eq, List.prod_eq_zero_iff_exists_zero_nat]

theorem enum_any_zero_iff (fil : Bool) (dims : List Nat) : ∀ i,
    ((List.range' i dims.length).zip dims).any (fun (x : Nat × Nat) => x.2 == 0 && (decide (x.1 > 0) || !fil)) = true
      ↔ countedProd fil i dims = 0 := by
  induction dims with
  | nil => intro i; simp [countedProd]
  | cons d t ih =>
    intro i
    simp only [List.length_cons, List.range'_succ, List.zip_cons_cons, List.any_cons, Bool.or_eq_true, countedProd,
      Nat.mul_eq_zero, ih (i + 1)]
    apply or_congr_left
    cases fil <;> by_cases hi : i > 0 <;> simp [hi]

theorem ite_zero_mul {c : Prop} [Decidable c] (a x : Nat) (h : c ↔ x = 0) :
    ((if c then 0 else a) = 0 ∨ x ≠ 0) ∧ (if c then 0 else a) * x = a * x := by
  split
  · next hc => exact ⟨.inl rfl, by rw [h.mp hc, Nat.mul_zero, Nat.mul_zero]⟩
  · next hc => exact ⟨.inr fun h0 => hc (h.mpr h0), rfl⟩

theorem sizeOk_record (p : Param) (rem : Nat) (hrem : rem + 0xFFFF < two64) (hb : p.type.size * p.dims.prod ≤ rem)
    (hv : p.nValues ≤ 0xFFFF) :
    sizeOk rem p.fil p.dims 0 (if p.dims.any (· == 0) then 0 else p.type.size)
      (if (enum p.dims).any (fun (x : Nat × Nat) => x.2 == 0 && (decide (x.1 > 0) || !p.fil)) then 0 else 1)
      = some p.nValues := by
  unfold enum
  rw [List.range_eq_range']
  obtain ⟨hB, eB⟩ := ite_zero_mul p.type.size p.dims.prod (any_zero_iff p.dims)
  obtain ⟨hV, eV⟩ := ite_zero_mul 1 (countedProd p.fil 0 p.dims) (enum_any_zero_iff p.fil p.dims 0)
  rw [Nat.one_mul] at eV
  rw [sizeOk_ok rem p.fil hrem p.dims 0 _ _ hB hV (by rw [eB]; exact hb) (by rw [eV]; exact Nat.le_trans hv (Nat.le_add_left _ _)), eV]
  rfl

theorem Param.nValues_eq (p : Param) : p.nValues = if p.fil then (p.dims.drop 1).prod else p.dims.prod := by
  unfold Param.nValues
  cases p.dims with
  | nil => cases p.fil <;> rfl
  | cons d t => rw [countedProd, countedProd_eq_prod _ _ _ (.inl (Nat.succ_pos 0))]; cases p.fil <;> simp

theorem nValues_small (p : Param) (h : RecOK p) : p.nValues ≤ 30000 := by
  rw [Param.nValues_eq]
  split
  · exact h.count_small
  · exact prod_small p h

end Ezc3d
