import Ezc3dVerif.Proofs.SizeCheck
/-
  One parameter record reads back: `Param.read` on the bytes `Param.write` produced (generic path) returns `p.norm` and stops at the
  end of the record, where the record's own offset says the next record starts. The pieces are in continuation style over the `SR`
  steps so that each rewrites inside `Param.read`; head, description and next position are those of a group record too (RecordsRT).
-/
namespace Ezc3d
open C12 N

theorem recHead_rt {β} (n : Int) (name : Bytes) (off : Nat) (t : Bytes) (hn : n.natAbs = name.length)
    (hz : ∀ c ∈ name, c ≠ 0) (hoff : off < 65536) (s : InStream) (j : Nat) (hf : s.failed = false)
    (k : Bytes → Nat → InStream → SR β) :
    (SR.bind (SR.lift fun s => s.readString n.natAbs) fun nm => SR.bind (SR.lift fun s => s.readUint 2) fun o =>
      SR.bind SR.get fun s2 => k nm o s2) (s.adv (name ++ (le16N off ++ t)) j)
      = k name off (s.adv t (j + (name.length + 2))) (s.adv t (j + (name.length + 2))) := by
  simp only [SR.bind_lift, SR.bind_get, hn]
  rw [adv_readString s _ name _ j rfl hz hf, adv_readUint2 s off t _ hoff hf, Nat.add_assoc]

theorem dims_rt {β} (dims : List Nat) (hne : dims ≠ []) (hl : dims.length ≤ 255) (hs : ∀ d ∈ dims, d ≤ 255)
    (s : InStream) (b : Bytes) (j : Nat) (hf : s.failed = false) (f : List Nat → SR β) :
    (SR.bind (SR.lift fun s => s.readUint 1) fun nDim =>
      SR.bind (if nDim = 0 then SR.pure [1] else SR.lift (readMany (fun s => s.readUint 1) nDim)) f) (s.adv (dimBytes dims ++ b) j)
      = f dims (s.adv b (j + (dimBytes dims).length)) := by
  unfold dimBytes
  by_cases h1 : dims = [1]
  · simp only [h1, if_true, List.cons_append, List.nil_append, SR.bind_lift, adv_readByte s _ b j hf, UInt8.reduceToNat,
      SR.bind_pure, List.length_singleton]
  · have hn : dims.length ≠ 0 := fun h0 => hne (List.length_eq_zero_iff.mp h0)
    simp only [h1, if_false, List.cons_append, SR.bind_lift, adv_readUint1 s dims.length _ j (by omega) hf, hn,
      adv_readMany_uint1 s dims _ rfl (fun d hd => Nat.lt_succ_of_le (hs d hd)) hf, List.length_cons, List.length_map,
      Nat.add_assoc, Nat.add_comm 1]

theorem Param.with_values_nil (p0 : Param) (h : p0.ints = [] ∧ p0.floats = [] ∧ p0.strs = []) :
    { p0 with ints := [], floats := [], strs := [] } = p0 := by
  cases p0; simp_all

theorem values_zero (p : Param) (h : RecOK p) (h0 : p.nValues = 0) :
    valBytes p = [] ∧ p.norm.ints = [] ∧ p.norm.floats = [] ∧ p.norm.strs = [] := by
  have hv := h.values
  rw [Param.nValues_eq, Param.fil] at h0
  unfold valBytes Param.norm
  cases ht : p.type
  case char =>
    have hs : p.strs = [] := by
      rcases hv.text_cases ht h.dims_ne with ⟨_, hs⟩ | ⟨w, s0, hd, hw, _, _⟩ | ⟨w, d, t, hd, hl, _⟩
      · exact hs
      · exact absurd (by simpa [ht, hd] using h0) hw
      · exact List.length_eq_zero_iff.mp (hl.trans (by simpa [ht, hd] using h0))
    simp [hs]
  -- byte, int, float are left: for `.none`, `hv` has become `False`
  all_goals (unfold ValuesOK at hv; simp only [ht] at hv h0 ⊢)
  · simp [List.length_eq_zero_iff.mp (hv.1.trans h0)]
  · simp [List.length_eq_zero_iff.mp (hv.1.trans h0)]
  · simp [List.length_eq_zero_iff.mp (hv.trans h0)]

theorem values_rt (p : Param) (h : RecOK p) (p0 : Param) (hp0 : p0.ints = [] ∧ p0.floats = [] ∧ p0.strs = [])
    (s : InStream) (b : Bytes) (hf : s.failed = false) (hr : s.rest = valBytes p ++ b) :
    (if p.nValues = 0 then SR.pure p0 else readValues p.type p.dims p0) s
      = .ok ({ p0 with ints := p.norm.ints, floats := p.norm.floats, strs := p.norm.strs }, s.adv b (valBytes p).length) := by
  by_cases h0 : p.nValues = 0
  · obtain ⟨e1, e2, e3, e4⟩ := values_zero p h h0
    rw [e1, List.nil_append] at hr
    rw [if_pos h0, e1, e2, e3, e4, Param.with_values_nil p0 hp0, ← hr]
    exact congrArg _ (adv_zero s).symm
  rw [if_neg h0]
  conv => lhs; rw [← adv_zero s, hr]
  have hv := h.values
  have hlen := valBytes_length p h
  unfold valBytes at hlen ⊢
  unfold Param.norm
  cases ht : p.type
  case char =>   -- the bytes are read in one piece and cut into cells
    rw [Param.nValues_eq, Param.fil, ht] at h0
    simp only [ht, PType.size, Nat.one_mul] at hlen ⊢
    simp only [readValues, SR.lift_apply]
    rw [adv_read s _ _ b 0 hlen hf, hlen, Nat.zero_add]
    rcases hv.text_cases ht h.dims_ne with ⟨hd, _⟩ | ⟨w, s0, hd, _, hs0, hok⟩ | ⟨w, d, t, hd, hl, hok⟩
    · simp [hd] at h0
    · simp only [hd, hs0, List.length_singleton, if_true, List.headD_cons, List.map_cons, List.map_nil, List.flatten_cons,
        List.flatten_nil, List.append_nil, cellString_strCell w s0 hok, hp0.1, hp0.2.1, reduceCtorEq, or_self, if_false]
    · rw [hd]
      simp only [List.length_cons, List.headD_cons, List.drop_succ_cons, List.drop_zero]
      rw [if_neg (by simp), ← hl, chunks_cells w p.strs (fun x hx => (hok x hx).1), map_cellString_cells w p.strs hok]
      simp only [hp0.1, hp0.2.1, reduceCtorEq, or_self, if_true, if_false]
  all_goals (unfold ValuesOK at hv; simp only [ht] at hv hlen ⊢)
  · simp only [readValues, SR.lift_apply, adv_readMany_int1 s p.ints _ hv.1 hv.2 hf, Nat.zero_add, List.length_map, hv.1,
      hp0.2.1, hp0.2.2, reduceCtorEq, or_false, if_true, if_false]
  · simp only [readValues, SR.lift_apply, adv_readMany_int2 s p.ints _ hv.1 hv.2 hf, Nat.zero_add, hlen, PType.size,
      hp0.2.1, hp0.2.2, reduceCtorEq, or_true, if_true, if_false]
  · simp only [readValues, SR.lift_apply, adv_readMany_float s p.floats _ hv hf, Nat.zero_add, hlen, PType.size,
      hp0.1, hp0.2.2, reduceCtorEq, or_self, if_true, if_false]

theorem desc_rt {α β} (x : α) (setD : α → Bytes → α) (d b : Bytes) (hl : d.length ≤ 255) (hz : ∀ c ∈ d, c ≠ 0)
    (s : InStream) (j : Nat) (hf : s.failed = false) (k : α → SR β) :
    (SR.bind (SR.lift fun s => s.readUint 1) fun dl =>
      SR.bind (if dl ≠ 0 then SR.lift (fun s => let (t, s') := s.readString dl; (setD x t, s')) else SR.pure x) k)
        (s.adv (low8N d.length :: (d ++ b)) j)
      = k (if d = [] then x else setD x d) (s.adv b (j + (1 + d.length))) := by
  simp only [SR.bind_lift, adv_readUint1 s d.length _ j (by omega) hf]
  by_cases hd : d = []
  · subst hd; simp
  · have h0 : d.length ≠ 0 := fun h => hd (List.length_eq_zero_iff.mp h)
    simp only [hd, h0, ne_eq, not_false_eq_true, if_true, if_false, SR.bind_lift, adv_readString s _ d b _ rfl hz hf, Nat.add_assoc]

/-- the offset counts from the offset field itself, which ends at `tellg()`: `n` name bytes and that field lie behind -/
theorem nextPos_rec (s : InStream) (t : Bytes) (n off : Nat) (hf : s.failed = false) (hs : s.Sync) (hlen : s.len + 2 < two31)
    (h0 : off ≠ 0) (hle : n + off ≤ s.rest.length) : nextPos (s.adv t (n + 2)).tell off = ((s.pos + (n + off) : Nat) : Int) := by
  unfold InStream.Sync at hs
  rw [nextPos, if_neg h0, tell_live _ (by simpa), adv_pos,
    show ((s.pos + (n + 2) : Nat) : Int) + (off : Int) - 2 = ((s.pos + (n + off) : Nat) : Int) by omega,
    intToU64_natCast _ (Nat.lt_trans (by omega) (show two31 < two64 by decide)), u64ToI32_of_lt _ (by omega)]

theorem Param_read_written (p : Param) (h : RecOK p) (s : InStream) (b : Bytes)
    (hf : s.failed = false) (hs : s.Sync) (hlen : s.len + 2 < two31) (hr : s.rest = p.recTail b) :
    Param.read p.nameLen s = .ok ((p.norm, ((s.pos + p.recLen : Nat) : Int)), s.adv b p.recLen) := by
  have hty := type_ne_none p h.values
  -- the arithmetic of the record: where it ends, what is left behind the dimensions
  obtain ⟨hend, hrem, hsz⟩ :
      p.name.length + 2 + 1 + (dimBytes p.dims).length + (valBytes p).length + (1 + p.desc.length) = p.recLen ∧
      s.len - (s.pos + (p.name.length + 2 + 1 + (dimBytes p.dims).length)) = (valBytes p).length + 1 + p.desc.length + b.length ∧
      (valBytes p).length + 1 + p.desc.length + b.length + 0xFFFF < two64 := by
    have hL : s.len = s.pos + (p.recLen + b.length) := by rw [hs, hr, Param.recTail_length]
    unfold Param.recLen Param.offN at hL ⊢
    unfold two64
    unfold two31 at hlen
    omega
  unfold Param.read
  conv => lhs; rw [← adv_zero s, hr, Param.recTail]
  rw [recHead_rt p.nameLen (toUpper p.name) p.offN _ (signedLen_natAbs_upper _ _)
    (C03.toUpper_nz p.name h.name_nz) (Nat.lt_trans (Param.offN_small p h) (by decide)) s 0 hf]
  simp only [SR.bind_lift]
  rw [adv_readInt1 s p.type.code _ _ (code_range p.type hty).1 (code_range p.type hty).2 hf]
  simp only [ptypeOf_code p.type hty]
  rw [dims_rt p.dims h.dims_ne h.dims_len h.dims_small s _ _ hf]
  simp only [SR.bind_get, Nat.zero_add]
  -- the size check: the bytes left are the values, the description and `b`
  rw [adv_remaining s _ _ hf,
    C03.toUpper_length, hrem, show (p.type == PType.char && decide (p.dims.length > 1)) = p.fil from rfl, code_natAbs p.type hty,
    sizeOk_record p _ hsz (by rw [← valBytes_length p h, Nat.add_assoc, Nat.add_assoc]; exact Nat.le_add_right _ _) (Nat.le_trans (nValues_small p h) (by decide))]
  simp only
  rw [locked_of_nameLen p h.name_pos, SR.bind_of_ok _ _ _ _ _ (values_rt p h { name := toUpper p.name, locked := p.locked, type := p.type, dims := p.dims }
    ⟨rfl, rfl, rfl⟩ (s.adv _ _) _ (by simpa) rfl), adv_adv]
  refine (desc_rt { p.norm with desc := [] } (fun x t => { x with desc := t }) p.desc b h.desc_len h.desc_nz s _ hf _).trans ?_
  rw [SR.pure_apply, nextPos_rec s _ _ _ hf hs hlen p.offN_ne_zero (by rw [hr, Param.recTail_length]; exact Nat.le_add_right _ _), hend]
  split
  · next h => simp only [Param.norm, h]; rfl
  · rfl

end Ezc3d
