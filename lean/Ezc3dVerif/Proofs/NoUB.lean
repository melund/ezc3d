import Ezc3dVerif.Proofs.Outcome
import Ezc3dVerif.Proofs.ByName
/- Which look-ups and edits of the model never evaluate to `ub`. -/
namespace Ezc3d

theorem atIdx_noUB {α} (l : List α) (i : Nat) : (atIdx l i).NoUB := by
  intro k; unfold atIdx; split <;> simp
theorem nameIdx_noUB {α} (name : α → Bytes) (l : List α) (key : Bytes) : (nameIdx name l key).NoUB := by
  intro k; unfold nameIdx; split <;> simp
theorem byName_noUB {α} (name : α → Bytes) (l : List α) (key : Bytes) : (byName name l key).NoUB :=
  Res.noUB_bind (nameIdx_noUB _ _ _) (fun _ => atIdx_noUB _ _)
theorem getParam_noUB (gs : List Group) (g p : Bytes) : (getParam gs g p).NoUB :=
  Res.noUB_bind (byName_noUB _ _ _) (fun _ => byName_noUB _ _ _)
theorem asInt_noUB (q : Param) : q.asInt.NoUB := Res.noUB_ite _ (Res.noUB_ok _) (Res.noUB_throw _)
theorem asFloat_noUB (q : Param) : q.asFloat.NoUB := Res.noUB_ite _ (Res.noUB_ok _) (Res.noUB_throw _)
theorem asString_noUB (q : Param) : q.asString.NoUB := Res.noUB_ite _ (Res.noUB_ok _) (Res.noUB_throw _)
theorem int0_noUB (gs : List Group) (g p : Bytes) : (int0 gs g p).NoUB :=
  Res.noUB_bind (getParam_noUB _ _ _) (fun q => Res.noUB_bind (asInt_noUB q) (fun _ => atIdx_noUB _ _))
theorem float0_noUB (gs : List Group) (g p : Bytes) : (float0 gs g p).NoUB :=
  Res.noUB_bind (getParam_noUB _ _ _) (fun q => Res.noUB_bind (asFloat_noUB q) (fun _ => atIdx_noUB _ _))
theorem strsOf_noUB (gs : List Group) (g p : Bytes) : (strsOf gs g p).NoUB :=
  Res.noUB_bind (getParam_noUB _ _ _) (fun q => asString_noUB q)
theorem labelsFor_noUB (frames : List Frame) (gs : List Group) (g : Bytes) : (labelsFor frames gs g).NoUB := by
  unfold labelsFor; split
  · exact strsOf_noUB _ _ _
  · exact Res.noUB_ok _
theorem groupIdx_noUB (gs : List Group) (g : Bytes) : (groupIdx gs g).NoUB := nameIdx_noUB _ _ _
theorem gpIdx_noUB (gs : List Group) (g p : Bytes) : (gpIdx gs g p).NoUB :=
  Res.noUB_bind (groupIdx_noUB _ _) (fun _ => Res.noUB_bind (atIdx_noUB _ _) (fun _ =>
    Res.noUB_bind (nameIdx_noUB _ _ _) (fun _ => Res.noUB_ok _)))
/-- a typed read at a position, spelled as `updateAnalogParams` spells it: the group by `atIdx`, in it the parameter by `atIdx`, then `get` -/
theorem readAt_noUB {α} (gs : List Group) (gi pi : Nat) {get : Param → Res α} (h : ∀ q, (get q).NoUB) :
    ((atIdx gs gi).bind fun g => (atIdx g.params pi).bind get).NoUB :=
  Res.noUB_bind (atIdx_noUB _ _) fun _ => Res.noUB_bind (atIdx_noUB _ _) h
theorem addParam_noUB (g : Group) (p : Param) : (g.addParam p).NoUB := by
  rw [addParam_eq]
  exact Res.noUB_ite _ (Res.noUB_throw _) (Res.noUB_ok _)

theorem insertParam_noUB (gs : List Group) (g : Bytes) (p : Param) : (insertParam gs g p).NoUB :=
  Res.noUB_bind (groupIdx_noUB _ _) fun _ => Res.noUB_bind (atIdx_noUB _ _) fun g' =>
    Res.noUB_bind (addParam_noUB g' p) fun _ => Res.noUB_ok _

theorem dataFrame_noUB (fs : List Frame) (f : Frame) (idx : Nat) : (dataFrame fs f idx).NoUB :=
  Res.noUB_ite _ (Res.noUB_ok _) (Res.noUB_ite _ (Res.noUB_throw _) (Res.noUB_ok _))

end Ezc3d
