import Ezc3dVerif.Proofs.SpecData
import Ezc3dVerif.Proofs.AnyOrder
import Ezc3dVerif.Proofs.PatchRT
/-
  The Spec decoder on the record chain: one parameter record, one group record, any sequence of valid records down
  to the terminator, and the writer's own order as one such sequence (`recsOf`). What the decoder returns is defined here: `specParam`,
  `specGroup` for one record, `specGroupsR`/`specParamsR` for a list of records, `specGroupsOf`/`specParamsOf` for a group table.
-/
namespace Ezc3d
open C12 N Spec

/-- a parameter as an independent reader of the format sees it -/
def specParam (i : Nat) (p : Param) : SParam :=
  { gid := i + 1, name := toUpper p.name, locked := p.locked, dims := specDims p, data := specData p, desc := p.desc }

def specGroup (i : Nat) (g : Group) : SGroup :=
  { gid := i + 1, name := toUpper g.name, locked := g.locked, desc := g.desc }

/-- The head every record starts with (length byte: negative = locked, 0 would be the terminator; id byte: negative = a group record).
    The length in the first byte is `n`, with `hn : name.length = n`, and not `name.length` itself: the callers' byte is
    `Param.nameLen`/`Group.nameLen`, written on the length of the name as stored, while the bytes carry `toUpper` of it.
    The byte comes out as `m + 1`: the decoder's `match` on it tries `some 0`, the terminator, first, and reduces past
    that case on a successor. -/
theorem recHead_of_drop (l : Bool) (n : Nat) (name : Bytes) (gl : Bool) (i off : Nat) (hn : name.length = n) (h1 : 1 ≤ n)
    (h2 : n ≤ 127) (hi : i + 1 ≤ 127) (hoff : off < 65536) {b t : Bytes} {o : Nat}
    (hd : b.drop o = low8 (if l then -(n : Int) else n) :: low8 (if gl then -((i + 1 : Nat) : Int) else (i + 1 : Nat))
      :: (name ++ (le16N off ++ t))) :
    ∃ m idb, byteAt b o = some (m + 1) ∧ (s8 (m + 1)).natAbs = name.length ∧ decide (s8 (m + 1) < 0) = l ∧
      byteAt b (o + 1) = some idb ∧ (s8 idb).natAbs = i + 1 ∧ decide (s8 idb < 0) = gl ∧ slice b (o + 2) name.length = some name ∧
      u16At b (o + 2 + name.length) = some off ∧ b.drop (o + 2 + name.length + 2) = t := by
  obtain ⟨hn1, hn2, hn0⟩ := signedLen_range l n h1 h2
  obtain ⟨hi1, hi2, -⟩ := signedLen_range gl (i + 1) (Nat.succ_pos i) hi
  have hs := s8_low8 _ hn1 hn2
  have hid := s8_low8 _ hi1 hi2
  have d1 := drop_succ hd
  have d2 : b.drop (o + 2) = _ := drop_succ d1
  have d3 := drop_step d2
  cases hm : (low8 (if l then -(n : Int) else n)).toNat with
  | zero => rw [hm] at hs; exact absurd hs.symm hn0
  | succ m =>
    rw [hm] at hs
    refine ⟨m, _, hm ▸ byteAt_of_drop hd, ?lenAbs, ?lenNeg, byteAt_of_drop d1, ?idAbs, ?idNeg, slice_of_drop d2,
      u16At_of_drop hoff d3, drop_step d3⟩
    case lenAbs => rw [hs, signedLen_natAbs, hn]
    case lenNeg => rw [hs, signedLen_neg l n h1]
    case idAbs => rw [hid, signedLen_natAbs]
    case idNeg => rw [hid, signedLen_neg gl (i + 1) (Nat.succ_pos i)]

theorem desc_of_drop (d : Bytes) (hl : d.length ≤ 255) {b t : Bytes} {o : Nat} (hd : b.drop o = low8N d.length :: (d ++ t)) :
    byteAt b o = some d.length ∧ slice b (o + 1) d.length = some d :=
  ⟨(byteAt_of_drop hd).trans (congrArg some (low8N_toNat _ (Nat.lt_succ_of_le hl))), slice_of_drop (drop_succ hd)⟩

theorem dimBytes_of_drop (p : Param) (h : RecOK p) {b t : Bytes} {o : Nat} (hd : b.drop o = dimBytes p.dims ++ t) :
    ∃ nd, byteAt b o = some nd ∧ listAt byteAt b (o + 1) 1 nd = some (specDims p) ∧ (dimBytes p.dims).length = 1 + nd := by
  unfold dimBytes specDims at *
  by_cases h1 : p.dims = [1]
  · simp only [h1, if_true] at hd ⊢
    exact ⟨0, byteAt_of_drop hd, rfl, rfl⟩
  · simp only [h1, if_false, List.cons_append] at hd ⊢
    refine ⟨p.dims.length, ?_, ?_, by simp; omega⟩
    · rw [byteAt_of_drop hd, low8N_toNat _ (Nat.lt_succ_of_le h.dims_len)]
    · have := listAt_bytes_of_drop _ (drop_succ hd)
      rw [List.length_map, List.map_map] at this
      rw [this, map_eq_self (UInt8.toNat ∘ low8N) _ fun d hd => low8N_toNat d (Nat.lt_succ_of_le (h.dims_small d hd))]

theorem decodeRecords_param_of_drop (fuel i : Nat) (p : Param) (acc : Records) (hi : i + 1 ≤ 127) (hp : RecOK p)
    {b t : Bytes} {o : Nat} (hd : b.drop o = p.recBytes ((i : Int) + 1) ++ t) :
    decodeRecords b (fuel + 1) o acc
      = decodeRecords b fuel (o + (p.recBytes ((i : Int) + 1)).length) { acc with params := acc.params ++ [specParam i p] } := by
  -- the record's arithmetic, settled while `omega` sees nothing else: its length, and its own offset pointing just behind it
  have hoff : p.offN = 2 + (1 + (dimBytes p.dims).length) + ((valBytes p).length + 1 + p.desc.length) := rfl
  have hlen : (p.recBytes ((i : Int) + 1)).length = 2 + (toUpper p.name).length + p.offN := by
    rw [Param.recBytes_length, C03.toUpper_length]; unfold Param.recLen; omega
  -- the negation of the decoder's own test `next ≠ p2 + 1 + dl`, with the sums associated as the decoder builds them
  have hend : ∀ nd, (dimBytes p.dims).length = 1 + nd → ¬ o + 2 + (toUpper p.name).length + p.offN
      ≠ o + 2 + (toUpper p.name).length + 2 + 2 + nd + (valBytes p).length + 1 + p.desc.length := by omega
  have hty := code_range p.type (type_ne_none p hp.values)
  obtain ⟨m, idb, lenAt, lenAbs, lenNeg, idAt, idAbs, idNeg, nameAt, offAt, dType⟩ := recHead_of_drop p.locked _ (toUpper p.name) false i p.offN
    (C03.toUpper_length _) hp.name_pos hp.name_len hi (Nat.lt_trans (p.offN_small hp) (by decide))
    (show b.drop o = low8 p.nameLen :: low8 ((i : Int) + 1) :: p.recTail t by rw [hd, ← Param.recTail_append]; rfl)
  obtain ⟨nd, ndAt, dimsAt, ndLen⟩ := dimBytes_of_drop p hp (drop_succ dType)
  have dVal : b.drop (o + 2 + (toUpper p.name).length + 2 + 2 + nd) = valBytes p ++ (low8N p.desc.length :: (p.desc ++ t)) := by
    have := drop_step (drop_succ dType); rw [ndLen, ← Nat.add_assoc] at this; exact this
  obtain ⟨dlAt, descAt⟩ := desc_of_drop p.desc hp.desc_len (drop_step dVal)
  rw [hlen, ← Nat.add_assoc, ← Nat.add_assoc, decodeRecords, lenAt]
  simp only [lenAbs, idAt, nameAt, offAt, idAbs, lenNeg, byteAt_of_drop dType, ndAt, dimsAt, s8_low8 _ hty.1 hty.2,
    decodeData_of_drop p hp dVal, dlAt, descAt, of_decide_eq_false idNeg, p.offN_ne_zero, if_false]
  rw [if_neg (hend nd ndLen)]
  rfl

theorem decodeRecords_param (fuel : Nat) (pre post : Bytes) (i : Nat) (p : Param) (acc : Records)
    (hi : i + 1 ≤ 127) (hp : RecOK p) :
    decodeRecords (pre ++ (p.recBytes ((i : Int) + 1) ++ post)) (fuel + 1) pre.length acc
      = decodeRecords (pre ++ (p.recBytes ((i : Int) + 1) ++ post)) fuel (pre.length + (p.recBytes ((i : Int) + 1)).length)
          { acc with params := acc.params ++ [specParam i p] } :=
  decodeRecords_param_of_drop fuel i p acc hi hp (List.drop_left ..)

theorem decodeRecords_group_of_drop (fuel i : Nat) (g : Group) (acc : Records) (hi : i + 1 ≤ 127) (hg : GroupOK g)
    {b t : Bytes} {o : Nat} (hd : b.drop o = (Rec.group i g).bytes ++ t) :
    decodeRecords b (fuel + 1) o acc
      = decodeRecords b fuel (o + (Rec.group i g).bytes.length) { acc with groups := acc.groups ++ [specGroup i g] } := by
  have hoff : g.offN = 3 + g.desc.length := rfl
  have hlen : (Rec.group i g).bytes.length = 2 + (toUpper g.name).length + g.offN := by
    simp only [Rec.bytes, List.length_cons, Group.recTail_length, List.length_nil, Nat.add_zero, C03.toUpper_length]; unfold Group.recLen; omega
  have hend : ¬ o + 2 + (toUpper g.name).length + g.offN ≠ o + 2 + (toUpper g.name).length + 2 + 1 + g.desc.length := by omega
  obtain ⟨m, idb, lenAt, lenAbs, lenNeg, idAt, idAbs, idNeg, nameAt, offAt, dDesc⟩ := recHead_of_drop g.locked _ (toUpper g.name) true i g.offN
    (C03.toUpper_length _) hg.name_pos hg.name_len hi (by have := hg.desc_len; omega)
    (show b.drop o = low8 g.nameLen :: low8 (-((i : Int) + 1)) :: g.recTail t by rw [hd, ← Group.recTail_append]; rfl)
  obtain ⟨dlAt, descAt⟩ := desc_of_drop g.desc hg.desc_len dDesc
  rw [hlen, ← Nat.add_assoc, ← Nat.add_assoc, decodeRecords, lenAt]
  simp only [lenAbs, idAt, nameAt, offAt, idAbs, lenNeg, dlAt, descAt, of_decide_eq_true idNeg, g.offN_ne_zero, if_true, if_false]
  rw [if_neg hend]
  rfl

/-- `R`: from a record list in any order (`Rec` carries its group index), the group / parameter records as the decoder collects them -/
def specGroupsR : List Rec → List SGroup
  | [] => []
  | .group i g :: rest => specGroup i g :: specGroupsR rest
  | .param _ _ :: rest => specGroupsR rest

def specParamsR : List Rec → List SParam
  | [] => []
  | .group _ _ :: rest => specParamsR rest
  | .param i p :: rest => specParam i p :: specParamsR rest

theorem decodeRecords_recs_of_drop {b t : Bytes} (fuel : Nat) (rs : List Rec) {o : Nat} (acc : Records)
    (hv : ∀ r ∈ rs, r.Valid) (hd : b.drop o = recsBytes rs ++ t) :
    decodeRecords b (fuel + rs.length) o acc
      = decodeRecords b fuel (o + (recsBytes rs).length)
          { acc with groups := acc.groups ++ specGroupsR rs, params := acc.params ++ specParamsR rs } := by
  induction rs generalizing o acc with
  | nil => simp [recsBytes, specGroupsR, specParamsR]
  | cons r rest ih =>
    rw [recsBytes, List.map_cons, List.flatten_cons, List.append_assoc] at hd
    have hr := hv r (by simp)
    have ih' := fun acc' => ih acc' (fun x hx => hv x (by simp [hx])) (drop_step hd)
    rw [List.length_cons, ← Nat.add_assoc]
    cases r with
    | group i g =>
      exact (decodeRecords_group_of_drop _ i g acc hr.1 hr.2 hd).trans
        ((ih' _).trans (by simp [recsBytes, specGroupsR, specParamsR, Nat.add_assoc]))
    | param i p =>
      exact (decodeRecords_param_of_drop _ i p acc hr.1 hr.2 hd).trans
        ((ih' _).trans (by simp [recsBytes, specGroupsR, specParamsR, Nat.add_assoc]))

theorem decodeRecords_recs (rs : List Rec) : ∀ (fuel : Nat) (b pre post : Bytes) (acc : Records),
    (∀ r ∈ rs, r.Valid) → b = pre ++ (recsBytes rs ++ post) →
    decodeRecords b (fuel + rs.length) pre.length acc
      = decodeRecords b fuel (pre.length + (recsBytes rs).length)
          { acc with groups := acc.groups ++ specGroupsR rs, params := acc.params ++ specParamsR rs } :=
  fun fuel _ _ post acc hv hb => decodeRecords_recs_of_drop (t := post) fuel rs acc hv (hb ▸ List.drop_left ..)

/-- the chain down to its terminator, with the fuel `Spec.decode` provides (a record has at least one byte) -/
theorem decodeRecords_section_of_drop (rs : List Rec) (hv : ∀ r ∈ rs, r.Valid) {b t : Bytes} {o : Nat}
    (hd : b.drop o = recsBytes rs ++ 0 :: t) :
    decodeRecords b (b.length + 1) o {}
      = some { groups := specGroupsR rs, params := specParamsR rs, terminated := true, endPos := o + (recsBytes rs).length + 1 } := by
  have hlen : (recsBytes rs).length + 1 ≤ b.length := by
    have := congrArg List.length hd
    rw [List.length_drop, List.length_append, List.length_cons] at this; omega
  obtain ⟨f, hf⟩ := Nat.exists_eq_add_of_le (Nat.le_trans (Nat.add_le_add_right (recs_count_le rs) 1) hlen)
  rw [show b.length + 1 = (f + 1 + 1) + rs.length by omega, decodeRecords_recs_of_drop _ rs _ hv hd, decodeRecords,
    byteAt_of_drop (drop_step hd)]
  rfl

/-- `Of`: from a group table whose first group has index `i`, in the writer's order (a group without a name writes nothing);
    `specGroupsR`/`specParamsR` of the writer's record list (`specGroupsR_recsOf`, `specParamsR_recsOf`) -/
def specGroupsOf : List Group → Nat → List SGroup
  | [], _ => []
  | g :: rest, i => (if g.name = [] then [] else [specGroup i g]) ++ specGroupsOf rest (i + 1)

def specParamsOf : List Group → Nat → List SParam
  | [], _ => []
  | g :: rest, i => (if g.name = [] then [] else g.params.map (specParam i)) ++ specParamsOf rest (i + 1)

theorem specGroupsR_params (i : Nat) (ps : List Param) (rs : List Rec) : specGroupsR (ps.map (.param i) ++ rs) = specGroupsR rs := by
  induction ps with
  | nil => rfl
  | cons p t ih => exact ih

theorem specParamsR_params (i : Nat) (ps : List Param) (rs : List Rec) :
    specParamsR (ps.map (.param i) ++ rs) = ps.map (specParam i) ++ specParamsR rs := by
  induction ps with
  | nil => rfl
  | cons p t ih => exact congrArg (specParam i p :: ·) ih

theorem specGroupsR_recsOf (gs : List Group) : ∀ i, specGroupsR (recsOf gs i) = specGroupsOf gs i := by
  induction gs with
  | nil => intro i; rfl
  | cons g rest ih =>
    intro i
    by_cases hn : g.name = []
    · simp only [recsOf, specGroupsOf, hn, if_true, List.nil_append, ih]
    · simp only [recsOf, specGroupsOf, hn, if_false, List.cons_append, specGroupsR, specGroupsR_params, ih, List.nil_append]

theorem specParamsR_recsOf (gs : List Group) : ∀ i, specParamsR (recsOf gs i) = specParamsOf gs i := by
  induction gs with
  | nil => intro i; rfl
  | cons g rest ih =>
    intro i
    by_cases hn : g.name = []
    · simp only [recsOf, specParamsOf, hn, if_true, List.nil_append, ih]
    · simp only [recsOf, specParamsOf, hn, if_false, List.cons_append, specParamsR, specParamsR_params, ih]

theorem decodeRecords_groupList (gs : List Group) : ∀ (fuel i : Nat) (b pre post : Bytes) (acc : Records),
    i + gs.length ≤ 127 → (∀ g ∈ gs, g.name ≠ [] → GroupRecsOK g) → b = pre ++ (groupsBytes gs i ++ post) →
    decodeRecords b (fuel + recCount gs) pre.length acc
      = decodeRecords b fuel (pre.length + (groupsBytes gs i).length)
          { acc with groups := acc.groups ++ specGroupsOf gs i, params := acc.params ++ specParamsOf gs i } := by
  intro fuel i b pre post acc hi hok hb
  rw [← recsBytes_recsOf, ← recsOf_length gs i, ← specGroupsR_recsOf gs i, ← specParamsR_recsOf gs i]
  exact decodeRecords_recs _ fuel b pre post acc (valid_recsOf gs i hi hok) (by rw [recsBytes_recsOf]; exact hb)

end Ezc3d
