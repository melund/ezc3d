import Ezc3dVerif.Spec.Assemble
import Ezc3dVerif.Proofs.SpecRecords
import Ezc3dVerif.Proofs.ByName
/-
  The loader's group table (`rs.foldl applyRec []`: replace-or-append loops over interleaved records) IS `Spec.assemble` of the
  independent decoder's flat record lists. Both sides become left folds over the records: `Spec.paramsOf` and `Spec.headerOf`,
  defined on the whole list, are what the steps `putS` and `hdrS` build (`foldl_eq_of_snoc`); entry `i` of the loader's table is a fold
  of `recAt i`, and through `viewG` the fold of `stepV i`, which splits into those two folds over the records of id `i + 1` (`foldl_stepV`).
-/
namespace Ezc3d
open N Spec

theorem foldl_eq_of_snoc {α β} {f : α → β → α} {D : List β → α} {a : α}
    (h : ∀ l x, D (l ++ [x]) = f (D l) x) (l : List β) (h0 : D [] = a) : l.foldl f a = D l := by
  suffices ∀ done todo : List β, todo.foldl f (D done) = D (done ++ todo) from h0 ▸ this [] l
  intro done todo
  induction todo generalizing done with
  | nil => rw [List.append_nil]; rfl
  | cons x t ih => rw [List.foldl_cons, ← h, ih, List.append_assoc]; rfl

/-- the loader's `Group.putParam` (replace or append by name) on the decoder's parameter records, as a fold step -/
def putS (acc : List SParam) (p : SParam) : List SParam :=
  match acc.findIdx? (fun x => x.name == p.name) with
  | some k => acc.set k p
  | none => acc ++ [p]

theorem putS_eq (acc : List SParam) (p : SParam) : putS acc p = upsert SParam.name p acc := upsert_eq SParam.name p acc

theorem firstOcc_append_one (l : List Bytes) (a : Bytes) :
    firstOcc (l ++ [a]) = if a ∈ l then firstOcc l else firstOcc l ++ [a] := by
  induction l with
  | nil => rfl
  | cons b t ih =>
    rw [List.cons_append, firstOcc, ih, firstOcc]
    by_cases hat : a ∈ t
    · rw [if_pos hat, if_pos (List.mem_cons_of_mem _ hat)]
    · rw [if_neg hat, List.filter_append]
      by_cases hab : a = b
      · subst hab
        simp
      · simp [hat, hab]

theorem mem_firstOcc (l : List Bytes) (a : Bytes) : a ∈ firstOcc l ↔ a ∈ l := by
  induction l with
  | nil => simp [firstOcc]
  | cons b t ih =>
    simp only [firstOcc, List.mem_cons, List.mem_filter, ih, bne_iff_ne]
    by_cases hab : a = b <;> simp [hab]

theorem firstOcc_nodup (l : List Bytes) : (firstOcc l).Nodup := by
  induction l with
  | nil => simp [firstOcc]
  | cons b t ih =>
    simp only [firstOcc, List.nodup_cons, List.mem_filter]
    refine ⟨?_, ih.filter _⟩
    rintro ⟨_, h⟩
    simp at h

theorem lastNamed_append_one (l : List SParam) (p : SParam) (n : Bytes) :
    lastNamed (l ++ [p]) n = if p.name = n then some p else lastNamed l n := by
  unfold lastNamed
  rw [List.reverse_append]
  by_cases h : p.name = n
  · rw [if_pos h]; exact List.find?_cons_of_pos (beq_iff_eq.mpr h)
  · rw [if_neg h]; exact List.find?_cons_of_neg (fun hc => h (beq_iff_eq.mp hc))

theorem lastNamed_name (l : List SParam) (n : Bytes) (x : SParam) (h : lastNamed l n = some x) : x.name = n := by
  unfold lastNamed at h
  have := List.find?_some h
  exact beq_iff_eq.mp this

theorem lastNamed_isSome (l : List SParam) (n : Bytes) (h : n ∈ l.map (·.name)) : ∃ x, lastNamed l n = some x := by
  obtain ⟨x, hx, hn⟩ := List.mem_map.mp h
  exact Option.isSome_iff_exists.mp (List.find?_isSome.mpr ⟨x, List.mem_reverse.mpr hx, beq_iff_eq.mpr hn⟩)

/-- `Spec.paramsOf` behind its filter, as a function of the records so far -/
def presented (l : List SParam) : List SParam := (firstOcc (l.map (·.name))).filterMap (lastNamed l)

theorem paramsOf_eq_presented (ps : List SParam) (g : Nat) : paramsOf ps g = presented (ps.filter (fun p => p.gid == g)) := rfl

theorem presented_names (l : List SParam) : (presented l).map (·.name) = firstOcc (l.map (·.name)) := by
  unfold presented
  have : ∀ (ns : List Bytes), (∀ n ∈ ns, n ∈ l.map (·.name)) → (ns.filterMap (lastNamed l)).map (·.name) = ns := by
    intro ns
    induction ns with
    | nil => intro _; rfl
    | cons n t ih =>
      intro h
      obtain ⟨x, hx⟩ := lastNamed_isSome l n (h n (by simp))
      simp only [List.filterMap_cons, hx, List.map_cons, lastNamed_name l n x hx]
      rw [ih (fun m hm => h m (by simp [hm]))]
  exact this _ (fun n hn => (mem_firstOcc _ n).mp hn)

theorem filterMap_congr_mem {α β} (l : List α) (f g : α → Option β) (h : ∀ a ∈ l, f a = g a) : l.filterMap f = l.filterMap g := by
  induction l with
  | nil => rfl
  | cons a t ih =>
    simp only [List.filterMap_cons, h a (by simp)]
    rw [ih (fun b hb => h b (by simp [hb]))]

theorem filterMap_set_at (ns : List Bytes) (hnd : ns.Nodup) (f g : Bytes → Option SParam) (n : Bytes) (p : SParam) (k : Nat)
    (hk : ns.findIdx? (fun m => m == n) = some k)
    (hf : ∀ m ∈ ns, ∃ x, f m = some x)
    (hg : ∀ m, g m = if m = n then some p else f m) :
    ns.filterMap g = (ns.filterMap f).set k p := by
  induction ns generalizing k with
  | nil => cases hk
  | cons a t ih =>
    obtain ⟨x, hx⟩ := hf a List.mem_cons_self
    have hnd := List.nodup_cons.mp hnd
    rw [List.findIdx?_cons] at hk
    rw [List.filterMap_cons_some hx]
    by_cases han : a = n
    · subst han
      rw [if_pos (beq_self_eq_true a)] at hk
      cases hk
      rw [List.filterMap_cons_some ((hg a).trans (if_pos rfl)), List.set_cons_zero,
        filterMap_congr_mem t g f fun m hm => (hg m).trans (if_neg fun (hc : m = a) => hnd.1 (hc ▸ hm))]
    · rw [if_neg (fun hc => han (beq_iff_eq.mp hc))] at hk
      obtain ⟨j, hj, rfl⟩ := Option.map_eq_some_iff.mp hk
      rw [List.filterMap_cons_some ((hg a).trans ((if_neg han).trans hx)), List.set_cons_succ,
        ih hnd.2 j hj fun m hm => hf m (List.mem_cons_of_mem _ hm)]

theorem presented_append_one (l : List SParam) (p : SParam) : presented (l ++ [p]) = putS (presented l) p := by
  have hidx : (presented l).findIdx? (fun x => x.name == p.name) = (firstOcc (l.map (·.name))).findIdx? (fun m => m == p.name) :=
    findIdx?_eq_of_map_eq (by rw [← presented_names, List.map_map]; rfl)
  have hlast : ∀ m, lastNamed (l ++ [p]) m = if m = p.name then some p else lastNamed l m := fun m => by
    rw [lastNamed_append_one]; simp only [eq_comm (a := p.name)]
  unfold putS
  rw [hidx]
  unfold presented
  rw [List.map_append, List.map_cons, List.map_nil, firstOcc_append_one]
  cases hk : (firstOcc (l.map (·.name))).findIdx? (fun m => m == p.name) with
  | some k =>
    have hin : p.name ∈ l.map (·.name) := by
      obtain ⟨hlt, hp, _⟩ := List.findIdx?_eq_some_iff_getElem.mp hk
      exact (mem_firstOcc _ _).mp ((beq_iff_eq.mp hp) ▸ List.getElem_mem hlt)
    rw [if_pos hin]
    exact filterMap_set_at _ (firstOcc_nodup _) (lastNamed l) _ p.name p k hk
      (fun m hm => lastNamed_isSome l m ((mem_firstOcc _ m).mp hm)) hlast
  | none =>
    have hout : ∀ m ∈ firstOcc (l.map (·.name)), m ≠ p.name := fun m hm => by simpa using List.findIdx?_eq_none_iff.mp hk m hm
    rw [if_neg (fun h => hout _ ((mem_firstOcc _ _).mpr h) rfl), List.filterMap_append]
    congr 1
    · exact filterMap_congr_mem _ _ _ fun m hm => by rw [hlast, if_neg (hout m hm)]
    · simp [hlast]

theorem foldl_putS_presented (l : List SParam) : l.foldl putS [] = presented l :=
  foldl_eq_of_snoc presented_append_one l rfl

theorem paramsOf_eq_fold (ps : List SParam) (g : Nat) : paramsOf ps g = (ps.filter (fun p => p.gid == g)).foldl putS [] := by
  rw [foldl_putS_presented, paramsOf_eq_presented]

/-- an empty description leaves the old one: `Group::read` assigns `desc` only when `dl ≠ 0` -/
def hdrS (old : AGroup) (r : SGroup) : AGroup :=
  { old with name := r.name, locked := r.locked, desc := if r.desc = [] then old.desc else r.desc }

theorem foldl_hdrS (l : List SGroup) :
    l.foldl hdrS {} = (match l.getLast? with
      | none => ({} : AGroup)
      | some h => { name := h.name, locked := h.locked, desc := (((l.filter (fun r => r.desc != [])).getLast?).map (·.desc)).getD [] }) := by
  apply foldl_eq_of_snoc
  case h0 => rfl
  intro done r
  cases hgl : done.getLast? with
  | none =>
    obtain rfl := List.getLast?_eq_none_iff.mp hgl
    by_cases hd : r.desc = [] <;> simp [hdrS, hd]
  | some h =>
    by_cases hd : r.desc = [] <;> simp [hdrS, hd, List.filter_append, List.getLast?_append]

theorem headerOf_eq_fold (gs : List SGroup) (g : Nat) : headerOf gs g = (gs.filter (fun r => r.gid == g)).foldl hdrS {} := by
  rw [foldl_hdrS]; rfl

/-- what record `r` does to entry `i` of the loader's table (`applyRec_getD`) -/
def recAt (i : Nat) (old : Group) : Rec → Group
  | .group j g => if j = i then { old with name := toUpper g.name, locked := g.locked, desc := if g.desc = [] then old.desc else g.desc } else old
  | .param j p => if j = i then old.putParam p.norm else old

theorem ensureGroups_getD (gs : List Group) (n i : Nat) : (ensureGroups gs n).getD i {} = gs.getD i {} := by
  simp only [ensureGroups, List.getD_eq_getElem?_getD, List.getElem?_append, List.getElem?_replicate]
  split
  · rfl
  · rw [List.getElem?_eq_none (by omega)]; split <;> rfl

theorem ensureGroups_modify_getD (gs : List Group) (j i : Nat) (f : Group → Group) :
    ((ensureGroups gs (j + 1)).modify j f).getD i {} = if j = i then f (gs.getD i {}) else gs.getD i {} := by
  rw [← ensureGroups_getD gs (j + 1) i]
  simp only [List.getD_eq_getElem?_getD, List.getElem?_modify]
  split
  next h => subst h; rw [List.getElem?_eq_getElem (le_length_ensureGroups gs (j + 1))]; rfl
  · cases (ensureGroups gs (j + 1))[i]? <;> rfl

theorem applyRec_getD (gs : List Group) (r : Rec) (i : Nat) : (applyRec gs r).getD i {} = recAt i (gs.getD i {}) r := by
  cases r <;> exact ensureGroups_modify_getD gs _ i _

theorem foldl_applyRec_getD (rs : List Rec) : ∀ (gs : List Group) (i : Nat),
    (rs.foldl applyRec gs).getD i {} = rs.foldl (recAt i) (gs.getD i {}) :=
  fun _ i => (List.foldl_hom (·.getD i {}) fun gs r => (applyRec_getD gs r i).symm).symm

/-- the loader's group at index `i` in the decoder's terms -/
def viewG (i : Nat) (g : Group) : AGroup :=
  { name := g.name, locked := g.locked, desc := g.desc, params := g.params.map (specParam i) }

/-- stored parameter names are upper case (the loader stores `p.norm`) -/
def UpperG (g : Group) : Prop := ∀ x ∈ g.params, toUpper x.name = x.name

theorem specParam_norm (i : Nat) (p : Param) : specParam i p.norm = specParam i p := by
  unfold specParam Param.norm specDims specData
  simp only [C03.toUpper_idem]
  cases p.type <;> simp

theorem norm_upper (p : Param) : toUpper p.norm.name = p.norm.name := by
  simp only [Param.norm, C03.toUpper_idem]

theorem putParam_view (i : Nat) (g : Group) (q : Param) (hg : UpperG g) (hq : toUpper q.name = q.name) :
    (g.putParam q).params.map (specParam i) = putS (g.params.map (specParam i)) (specParam i q) := by
  rw [putParam_eq, putS_eq]
  exact map_upsert _ _ _ _ _ fun x hx => by simp only [specParam, hg x hx, hq]

theorem recAt_upper (i : Nat) (g : Group) (r : Rec) (hg : UpperG g) : UpperG (recAt i g r) := by
  cases r with
  | group j gr => simp only [recAt]; split <;> exact hg
  | param j p =>
    simp only [recAt]; split
    · exact forall_mem_putParam hg (norm_upper p)
    · exact hg

/-- `recAt i` seen through `viewG i` (`recAt_view`) -/
def stepV (i : Nat) (v : AGroup) : Rec → AGroup
  | .group j g => if j = i then hdrS v (specGroup j g) else v
  | .param j p => if j = i then { v with params := putS v.params (specParam j p) } else v

theorem recAt_view (i : Nat) (g : Group) (r : Rec) (hg : UpperG g) : viewG i (recAt i g r) = stepV i (viewG i g) r := by
  cases r with
  | group j gr => simp only [recAt, stepV]; split <;> rfl
  | param j p =>
    simp only [recAt, stepV]
    split
    next h =>
      subst h
      simp only [viewG]
      rw [putParam_view j g p.norm hg (norm_upper p), specParam_norm]
      simp only [Group.putParam]
      split <;> rfl
    · rfl

theorem foldl_recAt_view (rs : List Rec) (i : Nat) (g : Group) (hg : UpperG g) :
    UpperG (rs.foldl (recAt i) g) ∧ viewG i (rs.foldl (recAt i) g) = rs.foldl (stepV i) (viewG i g) :=
  List.foldl_rel (r := fun g v => UpperG g ∧ viewG i g = v) ⟨hg, rfl⟩
    fun r _ g _ h => ⟨recAt_upper i g r h.1, h.2 ▸ recAt_view i g r h.1⟩

theorem foldl_hdrS_with_params (l : List SGroup) (v : AGroup) (X : List SParam) :
    l.foldl hdrS { v with params := X } = { l.foldl hdrS v with params := X } :=
  List.foldl_hom (fun v : AGroup => { v with params := X }) fun _ _ => rfl

theorem foldl_hdrS_keeps_params (l : List SGroup) : ∀ (v : AGroup), (l.foldl hdrS v).params = v.params :=
  fun v => by have := congrArg AGroup.params (foldl_hdrS_with_params l v v.params); exact this

theorem foldl_stepV (rs : List Rec) : ∀ (i : Nat) (v : AGroup),
    rs.foldl (stepV i) v
      = { ((specGroupsR rs).filter (fun r => r.gid == i + 1)).foldl hdrS v with
          params := ((specParamsR rs).filter (fun p => p.gid == i + 1)).foldl putS v.params } := by
  induction rs with
  | nil => intro i v; rfl
  | cons r t ih =>
    intro i v
    have hne : ∀ j, j ≠ i → (j + 1 == i + 1) = false := fun j hj => beq_eq_false_iff_ne.mpr fun h => hj (Nat.succ.inj h)
    cases r with
    | group j g =>
      rw [List.foldl_cons, ih, specGroupsR, specParamsR, stepV]
      by_cases hj : j = i
      · rw [if_pos hj, List.filter_cons_of_pos (by rw [hj]; exact beq_self_eq_true _)]; rfl
      · rw [if_neg hj, List.filter_cons_of_neg (by rw [show (specGroup j g).gid = j + 1 from rfl, hne j hj]; exact Bool.false_ne_true)]
    | param j p =>
      rw [List.foldl_cons, ih, specGroupsR, specParamsR, stepV]
      by_cases hj : j = i
      · rw [if_pos hj, List.filter_cons_of_pos (by rw [hj]; exact beq_self_eq_true _), List.foldl_cons, foldl_hdrS_with_params]
      · rw [if_neg hj, List.filter_cons_of_neg (by rw [show (specParam j p).gid = j + 1 from rfl, hne j hj]; exact Bool.false_ne_true)]

def Rec.idx : Rec → Nat
  | .group i _ => i
  | .param i _ => i

theorem applyRec_length (gs : List Group) (r : Rec) : (applyRec gs r).length = max gs.length (r.idx + 1) := by
  cases r <;> exact (List.length_modify ..).trans (length_ensureGroups gs _)

theorem foldl_max_split (rs : List Rec) : ∀ a b,
    (rs.map (fun r => r.idx + 1)).foldl max (max a b)
      = max (((specGroupsR rs).map (·.gid)).foldl max a) (((specParamsR rs).map (·.gid)).foldl max b) := by
  induction rs with
  | nil => intro a b; rfl
  | cons r t ih =>
    intro a b
    cases r with
    | group j g =>
      simp only [List.map_cons, List.foldl_cons, specGroupsR, specParamsR]
      rw [← ih]; exact congrArg (List.foldl max · _) (Nat.max_right_comm a b (j + 1))
    | param j p =>
      simp only [List.map_cons, List.foldl_cons, specGroupsR, specParamsR]
      rw [← ih]; exact congrArg (List.foldl max · _) (Nat.max_assoc a b (j + 1))

theorem table_length (rs : List Rec) : (rs.foldl applyRec []).length = maxId (specGroupsR rs) (specParamsR rs) := by
  -- each record makes the length `max length (idx + 1)` (`applyRec_length`), so the length is the fold of `max` over the
  -- `idx + 1`; split by the kind of record (`foldl_max_split`) that is `maxId`, the `max` over group ids and parameter ids
  have h : (rs.foldl applyRec []).length = (rs.map (fun r => r.idx + 1)).foldl max (max 0 0) :=
    (List.foldl_hom List.length fun gs r => (applyRec_length gs r).symm).symm.trans List.foldl_map.symm
  rw [h, foldl_max_split, maxId, List.foldl_append]
  exact (List.foldl_assoc (op := max)).symm.trans (by rw [Nat.max_zero])

theorem table_getElem (rs : List Rec) (i : Nat) (h : i < (rs.foldl applyRec []).length) :
    UpperG (rs.foldl applyRec [])[i] ∧
    viewG i (rs.foldl applyRec [])[i] = { headerOf (specGroupsR rs) (i + 1) with params := paramsOf (specParamsR rs) (i + 1) } := by
  rw [List.getElem_eq_getD {}, foldl_applyRec_getD, headerOf_eq_fold, paramsOf_eq_fold]
  have := foldl_recAt_view rs i {} (fun x hx => by cases hx)
  rw [foldl_stepV] at this
  -- `[].getD i {}` and `viewG i {}` both reduce to `{}`
  exact this

theorem table_eq_assemble (rs : List Rec) :
    (rs.foldl applyRec []).mapIdx viewG = Spec.assemble (specGroupsR rs) (specParamsR rs) := by
  apply List.ext_getElem
  · simp only [List.length_mapIdx, Spec.assemble, List.length_map, List.length_range]
    exact table_length rs
  · intro i h1 h2
    simp only [List.getElem_mapIdx, Spec.assemble, List.getElem_map, List.getElem_range]
    exact (table_getElem rs i (by simpa using h1)).2

end Ezc3d
