import Ezc3dVerif.Proofs.SpecBasics
import Ezc3dVerif.Proofs.ParamRead
/-
  The Spec decoder on the value part of a parameter record: it returns `specDims p` and `specData p` (defined here).
-/
namespace Ezc3d
open C12 N Spec

theorem trimBlank_eq (s : Bytes) : trimBlank s = cellString s := rfl

theorem cells_eq_chunks (w n : Nat) (b : Bytes) : cells w n b = (chunks w n b).map cellString := by
  induction n generalizing b with
  | zero => rfl
  | succ n ih => simp only [cells, chunks, List.map_cons, ih, trimBlank_eq]

theorem cells_cells (w : Nat) (strs : List Bytes) (h : ∀ s ∈ strs, StrOK w s) :
    cells w strs.length ((strs.map (strCell w)).flatten) = strs := by
  rw [cells_eq_chunks, chunks_cells w strs fun s hs => (h s hs).1, map_cellString_cells w strs h]

/-- dimensions as the file stores them: a single 1 is the scalar -/
def specDims (p : Param) : List Nat := if p.dims = [1] then [] else p.dims

/-- `.none => .chars []` is an arbitrary value, unreachable under `RecOK` (`ValuesOK` is `False` there) -/
def specData (p : Param) : PData :=
  match p.type with
  | .char => .chars p.strs | .byte => .bytes p.ints | .int => .ints p.ints | .float => .floats p.floats | .none => .chars []

theorem specDims_prod (p : Param) : (specDims p).prod = p.dims.prod := by
  unfold specDims; split
  · next h => rw [h]; rfl
  · rfl

theorem decodeData_of_drop (p : Param) (h : RecOK p) {b t : Bytes} {o : Nat} (hd : b.drop o = valBytes p ++ t) :
    decodeData b o p.type.code (specDims p) = some (specData p, o + (valBytes p).length) := by
  have hv := h.values
  have hs := slice_of_drop hd
  rw [valBytes_length p h] at hs ⊢
  unfold decodeData specData
  rw [specDims_prod]
  unfold valBytes at hd hs
  cases ht : p.type
  case char =>   -- the slice is the value part; it remains to cut it into the cells of `p.strs`, shape by shape
    simp only [ht, PType.code, PType.size, Nat.one_mul, if_true] at hs ⊢
    unfold specDims
    rcases hv.text_cases ht h.dims_ne with ⟨hdm, hs0⟩ | ⟨w, s0, hdm, h0, hs0, hok⟩ | ⟨w, d, r, hdm, hl, hok⟩
    · simp [hdm, hs0] at hs
      simp [hdm, hs0, hs]
    · simp [hdm, hs0] at hs
      by_cases h1 : w = 1
      · subst h1; simp [hdm, hs0, hs, trimBlank_eq, cellString_strCell 1 s0 hok]
      · simp [hdm, hs0, hs, h0, h1, trimBlank_eq, cellString_strCell w s0 hok]
    · have hc := cells_cells w p.strs hok
      rw [hl, List.prod_cons] at hc
      simp [hdm] at hs
      simp [hdm, hs, hc]
  -- the three numeric types, and `.none`, which ends here: `ValuesOK` is `False` of it
  all_goals (unfold ValuesOK at hv; simp only [ht, PType.code, PType.size, Nat.one_mul] at hv hd hs ⊢)
  case byte =>
    obtain ⟨hl, hr8⟩ := hv
    have := listAt_bytes_of_drop _ hd
    rw [List.length_map, hl] at this
    simp only [show ¬ ((1 : Int) = -1) from by decide, if_false, if_true, this, Option.map_some, List.map_map]
    rw [map_eq_self (s8 ∘ UInt8.toNat ∘ low8) p.ints fun v hv => s8_low8 v (hr8 v hv).1 (hr8 v hv).2]
  case int =>
    obtain ⟨hl, hr16⟩ := hv
    have := listAt_of_drop u16At_drop le16 (fun v => hex2uint (le16 v)) 2 p.ints (fun _ _ => rfl) (fun _ _ t => u16At_front _ _ t) hd
    rw [hl] at this
    simp only [show ¬ ((2 : Int) = -1) from by decide, show ¬ ((2 : Int) = 1) from by decide, if_false, if_true, this, Option.map_some,
      List.map_map]
    rw [map_eq_self (s16 ∘ fun v => hex2uint (le16 v)) p.ints fun v hv => (s16_word _ _).trans (le16_read v (hr16 v hv).1 (hr16 v hv).2)]
  case float =>
    have := listAt_of_drop u32At_drop f32le id 4 p.floats (fun _ _ => rfl) (fun v _ t => u32At_f32le v t) hd
    rw [hv, List.map_id] at this
    simp only [show ¬ ((4 : Int) = -1) from by decide, show ¬ ((4 : Int) = 1) from by decide, show ¬ ((4 : Int) = 2) from by decide,
      if_false, if_true, this, Option.map_some]

theorem decodeData_valBytes (p : Param) (h : RecOK p) (pre post : Bytes) :
    decodeData (pre ++ (valBytes p ++ post)) pre.length p.type.code (specDims p)
      = some (specData p, pre.length + (valBytes p).length) :=
  decodeData_of_drop p h (List.drop_left ..)

end Ezc3d
