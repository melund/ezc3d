import Ezc3dVerif.Properties.C12
import Ezc3dVerif.Spec.Format
/-
  Positional access of the independent decoder (Spec/Format.lean). Its field readers compute what the model's codec computes on
  the bytes at that place, so what a writer's bytes read back to is C12's. A file is described to the decoder by facts
  `b.drop o = seg ++ t` ("`seg` stands at offset `o`"): access at `o + i` is access at `i` behind `drop o`; `drop_step` moves past `seg`.
-/
namespace Ezc3d
open C12 N Spec

theorem s16_word (a c : UInt8) : s16 (hex2uint [a, c]) = hex2int [a, c] := by rw [hex2uint_2]; exact (hex2int_2 a c).symm

theorem u16At_front (a c : UInt8) (t : Bytes) : u16At (a :: c :: t) 0 = some (hex2uint [a, c]) :=
  congrArg some (hex2uint_2 a c).symm

theorem u32At_front (a c d e : UInt8) (t : Bytes) : u32At (a :: c :: d :: e :: t) 0 = some (f32OfBytes [a, c, d, e]) := rfl

theorem s8_low8 (v : Int) (h1 : -128 ≤ v) (h2 : v < 128) : s8 (low8 v).toNat = v := (hex2int_1 _).symm.trans (low8_read v h1 h2)

theorem u16At_le16N (n : Nat) (h : n < 65536) (t : Bytes) : u16At (le16N n ++ t) 0 = some n :=
  (u16At_front _ _ t).trans (congrArg some (le16N_read n h))

theorem u32At_f32le (v : UInt32) (t : Bytes) : u32At (f32le v ++ t) 0 = some v :=
  (u32At_front _ _ _ _ t).trans (congrArg some (f32_roundtrip v))

theorem byteAt_drop (b : Bytes) (o i : Nat) : byteAt (b.drop o) i = byteAt b (o + i) := by
  unfold byteAt; rw [List.getElem?_drop]

theorem u16At_drop (b : Bytes) (o i : Nat) : u16At (b.drop o) i = u16At b (o + i) := by
  unfold u16At; simp only [List.getElem?_drop, Nat.add_assoc]

theorem u32At_drop (b : Bytes) (o i : Nat) : u32At (b.drop o) i = u32At b (o + i) := by
  unfold u32At; simp only [List.getElem?_drop, Nat.add_assoc]

theorem slice_drop (b : Bytes) (o i n : Nat) : slice (b.drop o) i n = slice b (o + i) n := by
  unfold slice; rw [List.drop_drop]

theorem byteAt_cons_zero (x : UInt8) (b : Bytes) : byteAt (x :: b) 0 = some x.toNat := rfl
theorem byteAt_cons_succ (x : UInt8) (b : Bytes) (i : Nat) : byteAt (x :: b) (i + 1) = byteAt b i := rfl

theorem byteAt_append_left (a b : Bytes) (i : Nat) (h : i < a.length) : byteAt (a ++ b) i = byteAt a i := by
  unfold byteAt; rw [List.getElem?_append_left h]

theorem byteAt_append_right (a b : Bytes) (i : Nat) : byteAt (a ++ b) (a.length + i) = byteAt b i := by
  rw [← byteAt_drop, List.drop_left]

theorem drop_step {b seg t : Bytes} {o : Nat} (h : b.drop o = seg ++ t) : b.drop (o + seg.length) = t := by
  rw [← List.drop_drop, h, List.drop_left]

theorem drop_succ {b t : Bytes} {x : UInt8} {o : Nat} (h : b.drop o = x :: t) : b.drop (o + 1) = t :=
  drop_step (seg := [x]) h

theorem byteAt_of_drop {b t : Bytes} {x : UInt8} {o : Nat} (h : b.drop o = x :: t) : byteAt b o = some x.toNat := by
  rw [← Nat.add_zero o, ← byteAt_drop, h]; rfl

theorem slice_of_drop {b s t : Bytes} {o : Nat} (h : b.drop o = s ++ t) : slice b o s.length = some s := by
  rw [← Nat.add_zero o, ← slice_drop, h]; simp [slice]

theorem u16At_of_drop {b t : Bytes} {n o : Nat} (hn : n < 65536) (h : b.drop o = le16N n ++ t) : u16At b o = some n := by
  rw [← Nat.add_zero o, ← u16At_drop, h, u16At_le16N n hn]

theorem u32At_of_drop {b t : Bytes} {v : UInt32} {o : Nat} (h : b.drop o = f32le v ++ t) : u32At b o = some v := by
  rw [← Nat.add_zero o, ← u32At_drop, h, u32At_f32le]

theorem listAt_of_drop {α β} {f : Bytes → Nat → Option β} (hf : ∀ b o i, f (b.drop o) i = f b (o + i))
    (enc : α → Bytes) (dec : α → β) (step : Nat) {b t : Bytes} (l : List α)
    (hl : ∀ x ∈ l, (enc x).length = step) (hd : ∀ x ∈ l, ∀ t, f (enc x ++ t) 0 = some (dec x)) :
    ∀ {o : Nat}, b.drop o = (l.map enc).flatten ++ t → listAt f b o step l.length = some (l.map dec) := by
  induction l with
  | nil => intro o _; rfl
  | cons x r ih =>
    intro o h
    rw [List.map_cons, List.flatten_cons, List.append_assoc] at h
    have h0 : f b o = some (dec x) := by rw [← Nat.add_zero o, ← hf, h]; exact hd x (by simp) _
    have h1 := drop_step h
    rw [hl x (by simp)] at h1
    simp only [List.length_cons, listAt, List.map_cons, h0, ih (fun y hy => hl y (by simp [hy])) (fun y hy => hd y (by simp [hy])) h1]

theorem listAt_bytes_of_drop {b t : Bytes} (l : Bytes) {o : Nat} (h : b.drop o = l ++ t) :
    listAt byteAt b o 1 l.length = some (l.map UInt8.toNat) :=
  listAt_of_drop byteAt_drop (fun x => [x]) UInt8.toNat 1 l (fun _ _ => rfl) (fun _ _ _ => rfl)
    (by rw [← List.flatMap_def, List.flatMap_singleton']; exact h)

theorem map_eq_self {α} (g : α → α) (l : List α) (h : ∀ x ∈ l, g x = x) : l.map g = l :=
  (List.map_congr_left h).trans (List.map_id l)

end Ezc3d
