import Ezc3dVerif.Proofs.Mand
import Ezc3dVerif.Proofs.NoUB
import Ezc3dVerif.Proofs.Codec
/-
  The updaters `updateHeader` / `updateParameters`. Whatever the outcome, what they do to the parameter tree is a sequence of in-place
  rewrites of mandatory slots by the internal setters (`Sets`), so a property of the tree that survives such a rewrite (`Kept`) holds of
  whatever they leave, on success and on a throw. Each half of `updateParameters` is walked once (`updatePointParams_walk`,
  `updateAnalogParams_walk`, an `Outcome.Walk`): for all such properties and for `NoUB`, for when it completes, and for what it
  establishes (the result is `Off` the names rewritten, and the counts read back). Under `Mand` they complete and, `Mand` being `Kept`,
  re-establish it. The header update is walked the same way (`subFromRates_walk`, `updateHeaderH_walk`; `updateHeader_walk` on the
  object): it keeps nothing of the header, completes under `Mand`, and leaves header and parameters agreeing (`HP`) under the side
  conditions of `HeaderPost` (the header's analog words exact beforehand, `HdrInv`, and the sizes in range). `updateParameters`
  itself begins with two guards that throw, so it is no walk: `updateParameters_allN` says what it keeps, `updateParameters_ok_of_Mand`
  when it completes, `updateParameters_post` (Proofs/Post.lean) what it establishes.
-/
namespace Ezc3d
open N

theorem setInts!_name (v : List Int) (q : Param) : (q.setInts! v).name = q.name := rfl
theorem setFloats!_name (v : List UInt32) (q : Param) : (q.setFloats! v).name = q.name := rfl
theorem setStrs!_name (v : List Bytes) (q : Param) : (q.setStrs! v).name = q.name := rfl

/-- the setters `updateParameters` applies to a slot of kind `k` (`.str` and `.any` get the same one: they differ in what is read
    of the slot beforehand) -/
inductive Sets : Kind → (Param → Param) → Prop
  | intNE (n : Int) : Sets .intNE (·.setInts! [n])
  | str (v : List Bytes) : Sets .str (·.setStrs! v)
  | any (v : List Bytes) : Sets .any (·.setStrs! v)
  | floats (v : List UInt32) : Sets .floats (·.setFloats! v)
  | ints (v : List Int) : Sets .ints (·.setInts! v)

theorem Sets.name {k f} (h : Sets k f) (q : Param) : (f q).name = q.name := by cases h <;> rfl
theorem Sets.ok {k f} (h : Sets k f) (q : Param) : k.ok (f q) := by
  cases h with
  | intNE n => exact ⟨rfl, List.cons_ne_nil _ _⟩
  | any v => trivial
  | str v | floats v | ints v => rfl

def Kept (I : List Group → Prop) : Prop :=
  ∀ g1 g p k gi pi f, I g1 → (g, p, k) ∈ slots → gpIdx g1 g p = .ok (gi, pi) → Sets k f → I (modParam g1 gi pi f)

theorem kept_true : Kept fun _ => True := fun _ _ _ _ _ _ _ _ _ _ _ => trivial

theorem kept_Mand : Kept Mand :=
  fun _ g p k gi pi f h hm hidx hs =>
    Mand_modParam h g p gi pi f hs.name hidx fun k' hk' q _ => slot_kind g p k k' hm hk' ▸ hs.ok q

/-- as the updaters rewrite: at the group position found earlier and the parameter position just found -/
theorem Kept.at {I : List Group → Prop} (hI : Kept I) {gs : List Group} {g p : Bytes} {k : Kind} {gi gi' pi : Nat} {f : Param → Param}
    (h : I gs) (hm : (g, p, k) ∈ slots) (hidx : gpIdx gs g p = .ok (gi', pi)) (hg : groupIdx gs g = .ok gi) (hs : Sets k f) :
    I (modParam gs gi pi f) :=
  hI gs g p k gi pi f h hm (gpIdx_at hidx hg) hs

theorem Kept.ifPresent {I : List Group → Prop} (hI : Kept I) {gs : List Group} {g p : Bytes} {k : Kind} {gi : Nat} {f : Param → Param}
    (h : I gs) (hm : (g, p, k) ∈ slots) (hg : groupIdx gs g = .ok gi) (hs : Sets k f) : I (modIfPresent gs g p gi f) := by
  unfold Ezc3d.modIfPresent
  split
  · exact hI.at h hm ‹_› hg hs
  · exact h

theorem int0_modParam_set {gs : List Group} {g0 p0 : Bytes} {gi gi' pi : Nat} (v : Int) (hidx : gpIdx gs g0 p0 = .ok (gi', pi))
    (hg : groupIdx gs g0 = .ok gi) : int0 (modParam gs gi pi (·.setInts! [v])) g0 p0 = .ok v := by
  obtain ⟨q, hq, _⟩ := gpIdx_ok_getParam hidx
  unfold int0
  rw [getParam_modParam gs g0 p0 gi pi _ (setInts!_name _) (gpIdx_at hidx hg), if_pos ⟨rfl, rfl⟩, hq]
  rfl

theorem strsOf_modParam_set {gs : List Group} {g0 p0 : Bytes} {gi gi' pi : Nat} (v : List Bytes) (hidx : gpIdx gs g0 p0 = .ok (gi', pi))
    (hg : groupIdx gs g0 = .ok gi) : strsOf (modParam gs gi pi (·.setStrs! v)) g0 p0 = .ok v := by
  obtain ⟨q, hq, _⟩ := gpIdx_ok_getParam hidx
  unfold strsOf
  rw [getParam_modParam gs g0 p0 gi pi _ (setStrs!_name _) (gpIdx_at hidx hg), if_pos ⟨rfl, rfl⟩, hq]
  rfl

theorem labelsFor_eq {gs : List Group} {g : Bytes} {ol : List Bytes} (h : strsOf gs g LABELS = .ok ol) (frames : List Frame) :
    labelsFor frames gs g = .ok (match frames with | [] => ol | _ :: _ => []) := by
  unfold labelsFor; cases frames with
  | nil => exact h
  | cons _ _ => rfl

theorem channelNames_labelsFor {gs : List Group} {frames : List Frame} {oa oa' : List Bytes} (h : labelsFor frames gs ANALOG = .ok oa')
    (hoa : strsOf gs ANALOG LABELS = .ok oa) (na : List Bytes) : channelNames frames oa' na = channelNames frames oa na := by
  cases frames with
  | nil => rw [show oa' = oa from Res.ok.inj (h.symm.trans hoa)]
  | cons _ _ => rfl

theorem pointNames_labelsFor {gs : List Group} {frames : List Frame} {ol ol' : List Bytes} (h : labelsFor frames gs POINT = .ok ol')
    (hol : strsOf gs POINT LABELS = .ok ol) (np : List Bytes) : pointNames frames ol' np = pointNames frames ol np := by
  cases frames with
  | nil => rw [show ol' = ol from Res.ok.inj (h.symm.trans hol)]
  | cons _ _ => rfl

/-- the look-ups the POINT half makes before its first rewrite (`framesAt`, `nFrames`) and those it makes later, as they stand before it
    (`…At`: a position; the others: a value) -/
structure PointSlots (gs : List Group) : Prop where
  framesAt : ∃ a, gpIdx gs POINT FRAMES = .ok a
  nFrames : ∃ a, int0 gs POINT FRAMES = .ok a
  labels : ∃ a, strsOf gs POINT LABELS = .ok a
  nUsed : ∃ a, int0 gs POINT USED = .ok a
  usedAt : ∃ a, gpIdx gs POINT USED = .ok a
  labelsAt : ∃ a, gpIdx gs POINT LABELS = .ok a

/-- The POINT half, walked once. Carried from rewrite to rewrite: the invariant (`hN`, it is `Kept`) and what the rewrite is `Off` (`oN`);
    from `oN`, that POINT is still the group at `gP` (`hgN`) and that the look-ups of FRAMES, USED and LABELS succeed later if they do at
    the start (DESCRIPTIONS and UNITS are not needed: C10b `C10.updatePointParams_needs_no_optional_text`). After a success POINT:LABELS
    lists the point names whenever the count had to change, else it is left as it was (`l = ol`). -/
theorem updatePointParams_walk {I : List Group → Prop} (hI : Kept I) {gs : List Group} (h : I gs) (frames : List Frame) (np : List Bytes) :
    (updatePointParams gs frames np).Walk I (PointSlots gs) fun g' => Off POINT [FRAMES, USED, LABELS, DESCRIPTIONS, UNITS] gs g' ∧
      ∀ ol, strsOf gs POINT LABELS = .ok ol → frames.length < two31 → (pointNames frames ol np).length < two31 →
        (∃ fr, int0 g' POINT FRAMES = .ok fr ∧ intToU64 fr = frames.length) ∧
        (∃ u, int0 g' POINT USED = .ok u ∧ intToU64 u = (pointNames frames ol np).length) ∧
        (∃ l, strsOf g' POINT LABELS = .ok l ∧ (l = pointNames frames ol np ∨ l = ol)) := by
  unfold updatePointParams
  dsimp -zeta only
  refine Outcome.walk_andThen (gpIdx_noUB _ _ _) h (fun hC => hC.framesAt) fun ⟨gP, iF⟩ hiF => ?_
  refine Outcome.walk_andThen (int0_noUB _ _ _) h (fun hC => hC.nFrames) fun fr hfr => ?_
  have hg0 : groupIdx gs POINT = .ok gP := gpIdx_group hiF
  extract_lets g1
  have h1 : I g1 := iteInduction (motive := I) (fun _ => hI.at h mem_slots_PF hiF hg0 (.intNE _)) fun _ => h
  have o1 : Off POINT [FRAMES] gs g1 := iteInduction (fun _ => Off.modParam (setInts!_name _) hiF hg0) fun _ => .refl
  have hg1 := o1.group hg0
  have hF1 (hfl : frames.length < two31) : ∃ fr1, int0 g1 POINT FRAMES = .ok fr1 ∧ intToU64 fr1 = frames.length :=
    iteInduction (motive := fun g => ∃ fr1, int0 g POINT FRAMES = .ok fr1 ∧ intToU64 fr1 = frames.length)
      (fun _ => ⟨_, int0_modParam_set _ hiF hg0, intToU64_u64ToI32 _ hfl⟩) fun hc => ⟨fr, hfr, (Decidable.not_not.mp hc).symm⟩
  refine Outcome.walk_andThen (labelsFor_noUB _ _ _) h1
    (fun hC => let ⟨_, e⟩ := hC.labels; ⟨_, labelsFor_eq ((o1.strsOf (by decide)).trans e) frames⟩) fun ol' hol' => ?_
  refine Outcome.walk_andThen (int0_noUB _ _ _) h1 (fun hC => let ⟨_, e⟩ := hC.nUsed; ⟨_, (o1.int0 (by decide)).trans e⟩) fun used hused => ?_
  refine iteInduction (fun _ => ?_) fun hc => Outcome.walk_ok h1 ⟨o1.trans .refl, fun ol hol hfl _ => by
    have hL1 := (o1.strsOf (by decide)).trans hol
    rw [← pointNames_labelsFor hol' hL1]
    exact ⟨hF1 hfl, ⟨used, hused, (Decidable.not_not.mp hc).symm⟩, ⟨ol, hL1, .inr rfl⟩⟩⟩
  refine Outcome.walk_andThen (gpIdx_noUB _ _ _) h1 (fun hC => o1.pos _ _ ▸ hC.usedAt) fun iU hiU => ?_
  extract_lets g2
  have h2 : I g2 := hI.at h1 mem_slots_PU hiU hg1 (.intNE _)
  have o2 : Off POINT [USED] g1 g2 := Off.modParam (setInts!_name _) hiU hg1
  have hg2 := o2.group hg1
  have hU2 : int0 g2 POINT USED = .ok _ := int0_modParam_set (u64ToI32 (pointNames frames ol' np).length) hiU hg1
  refine Outcome.walk_andThen (gpIdx_noUB _ _ _) h2 (fun hC => (o1.trans o2).pos _ _ ▸ hC.labelsAt) fun iL hiL => ?_
  extract_lets g3 g4 g5
  have h3 : I g3 := hI.at h2 mem_slots_PL hiL hg2 (.str _)
  have o3 : Off POINT [LABELS] g2 g3 := Off.modParam (setStrs!_name _) hiL hg2
  have hg3 := o3.group hg2
  have hL3 : strsOf g3 POINT LABELS = .ok _ := strsOf_modParam_set (pointNames frames ol' np) hiL hg2
  have h4 : I g4 := hI.ifPresent h3 mem_slots_PD hg3 (.any _)
  have o4 : Off POINT [DESCRIPTIONS] g3 g4 := Off.ifPresent (setStrs!_name _) hg3
  have hg4 := o4.group hg3
  have h5 : I g5 := hI.ifPresent h4 mem_slots_PN hg4 (.any _)
  have o5 : Off POINT [UNITS] g4 g5 := Off.ifPresent (setStrs!_name _) hg4
  have o45 := o4.trans o5
  have o35 := o3.trans o45
  refine Outcome.walk_ok h5 ⟨o1.trans (o2.trans o35), fun ol hol hfl hpn => ?_⟩
  rw [← pointNames_labelsFor hol' ((o1.strsOf (by decide)).trans hol)] at hpn ⊢
  obtain ⟨fr1, e1, e2⟩ := hF1 hfl
  exact ⟨⟨fr1, ((o2.trans o35).int0 (by decide)).trans e1, e2⟩,
    ⟨_, (o35.int0 (by decide)).trans hU2, intToU64_u64ToI32 _ hpn⟩, ⟨_, (o45.strsOf (by decide)).trans hL3, .inl rfl⟩⟩

/-- The ANALOG half, walked once. Carried from rewrite to rewrite: the invariant (`hN`) and what the rewrite is `Off` (`oN`); from `oN`,
    that ANALOG is still the group at `gA` (`hgN`). It completes when the invariant is at least `Mand`: the next look-up is then of a
    slot in place (at a weaker `I` the condition `∀ g, I g → Mand g` cannot be met, and `completes` says nothing). -/
theorem updateAnalogParams_walk {I : List Group → Prop} (hI : Kept I) {gs : List Group} (h : I gs) (frames : List Frame) (na : List Bytes) :
    (updateAnalogParams gs frames na).Walk I (∀ g, I g → Mand g) fun g' => Off ANALOG [USED, LABELS, DESCRIPTIONS, SCALE, OFFSET, UNITS] gs g' ∧
      ∀ oa, strsOf gs ANALOG LABELS = .ok oa → (channelNames frames oa na).length < two31 →
        (∃ u, int0 g' ANALOG USED = .ok u ∧ intToU64 u = (channelNames frames oa na).length) ∧
        (∃ l, strsOf g' ANALOG LABELS = .ok l ∧ (l = channelNames frames oa na ∨ l = oa)) := by
  unfold updateAnalogParams
  dsimp -zeta only
  refine Outcome.walk_andThen (groupIdx_noUB _ _) h (fun hM => let ⟨gA, _, hgi, _⟩ := (hM _ h).group mem_slots_AU; ⟨gA, hgi⟩) fun gA hgA => ?_
  refine Outcome.walk_andThen (labelsFor_noUB _ _ _) h
    (fun hM => let ⟨_, e⟩ := (hM _ h).strsOf mem_slots_AL; ⟨_, labelsFor_eq e frames⟩) fun oa' hoa' => ?_
  refine Outcome.walk_andThen (int0_noUB _ _ _) h (fun hM => (hM _ h).int0 mem_slots_AU) fun aused haused => ?_
  refine iteInduction (fun _ => ?_) fun hc => Outcome.walk_ok h ⟨.refl, fun oa hoa _ => by
    rw [← channelNames_labelsFor hoa' hoa]
    exact ⟨⟨aused, haused, (Decidable.not_not.mp hc).symm⟩, ⟨oa, hoa, .inr rfl⟩⟩⟩
  refine Outcome.walk_andThen (gpIdx_noUB _ _ _) h (fun hM => (hM _ h).gpIdx mem_slots_AU) fun iU hiU => ?_
  extract_lets a1
  have h1 : I a1 := hI.at h mem_slots_AU hiU hgA (.intNE _)
  have o1 : Off ANALOG [USED] gs a1 := Off.modParam (setInts!_name _) hiU hgA
  have hg1 := o1.group hgA
  have hU1 : int0 a1 ANALOG USED = .ok _ := int0_modParam_set (u64ToI32 (channelNames frames oa' na).length) hiU hgA
  refine Outcome.walk_andThen (gpIdx_noUB _ _ _) h1 (fun hM => (hM _ h1).gpIdx mem_slots_AL) fun iL hiL => ?_
  extract_lets a2 a3
  have h2 : I a2 := hI.at h1 mem_slots_AL hiL hg1 (.str _)
  have o2 : Off ANALOG [LABELS] a1 a2 := Off.modParam (setStrs!_name _) hiL hg1
  have hg2 := o2.group hg1
  have hL2 : strsOf a2 ANALOG LABELS = .ok _ := strsOf_modParam_set (channelNames frames oa' na) hiL hg1
  have h3 : I a3 := hI.ifPresent h2 mem_slots_AD hg2 (.any _)
  have o3 : Off ANALOG [DESCRIPTIONS] a2 a3 := Off.ifPresent (setStrs!_name _) hg2
  have hg3 := o3.group hg2
  refine Outcome.walk_andThen (gpIdx_noUB _ _ _) h3 (fun hM => (hM _ h3).gpIdx mem_slots_AS) fun iS hiS => ?_
  refine Outcome.walk_andThen (readAt_noUB _ _ _ asFloat_noUB) h3
    (fun hM => (hM _ h3).readAt mem_slots_AS hiS hg3 fun _ ht => ⟨_, if_pos ht⟩) fun scales _ => ?_
  extract_lets a4
  have h4 : I a4 := hI.at h3 mem_slots_AS hiS hg3 (.floats _)
  have o4 : Off ANALOG [SCALE] a3 a4 := Off.modParam (setFloats!_name _) hiS hg3
  have hg4 := o4.group hg3
  refine Outcome.walk_andThen (gpIdx_noUB _ _ _) h4 (fun hM => (hM _ h4).gpIdx mem_slots_AO) fun iO hiO => ?_
  refine Outcome.walk_andThen (readAt_noUB _ _ _ asInt_noUB) h4
    (fun hM => (hM _ h4).readAt mem_slots_AO hiO hg4 fun _ ht => ⟨_, if_pos ht⟩) fun offs _ => ?_
  extract_lets a5
  have h5 : I a5 := hI.at h4 mem_slots_AO hiO hg4 (.ints _)
  have o5 : Off ANALOG [OFFSET] a4 a5 := Off.modParam (setInts!_name _) hiO hg4
  have hg5 := o5.group hg4
  refine Outcome.walk_mono (Q := Off ANALOG [UNITS] a5) ?_ fun g' o6 => ?_
  · split
    next gN iN hiN =>
      refine Outcome.walk_andThen (readAt_noUB _ _ _ asString_noUB) h5
        (fun hM => (hM _ h5).readAt mem_slots_AN hiN hg5 fun _ ht => ⟨_, if_pos ht⟩) fun units _ => ?_
      exact Outcome.walk_ok (hI.at h5 mem_slots_AN hiN hg5 (.str _)) (Off.modParam (setStrs!_name _) hiN hg5)
    next => exact Outcome.walk_ok h5 .refl
  -- the rewrites after USED and LABELS touch other names of the group only
  have o36 := o3.trans (o4.trans (o5.trans o6))
  refine ⟨o1.trans (o2.trans o36), fun oa hoa hcn => ?_⟩
  rw [← channelNames_labelsFor hoa' hoa] at hcn ⊢
  exact ⟨⟨_, ((o2.trans o36).int0 (by decide)).trans hU1, intToU64_u64ToI32 _ hcn⟩, ⟨_, (o36.strsOf (by decide)).trans hL2, .inl rfl⟩⟩

/-- the header's analog words are exact (samples per frame = channels x sub-frames), within the range where the library's `size_t`
    products do not wrap -/
structure HdrInv (h : Header) : Prop where
  exact : h.nbAnalogsMeas = h.nbAnalogs * h.nbAnalogByFrame
  small : h.nbAnalogs < two31
  abf : h.nbAnalogByFrame < two32

theorem setA_inv (h : Header) (a : Nat) (habf : h.nbAnalogByFrame < two32) (ha : a < two31) :
    HdrInv (h.setNbAnalogs a) ∧ (h.nbAnalogByFrame ≠ 0 → (h.setNbAnalogs a).nbAnalogs = a) := by
  have e1 : (h.setNbAnalogs a).nbAnalogsMeas = a * h.nbAnalogByFrame := by
    exact Nat.mod_eq_of_lt (mul_small ha habf)
  have e2 : (h.setNbAnalogs a).nbAnalogByFrame = h.nbAnalogByFrame := rfl
  have e3 : (h.setNbAnalogs a).nbAnalogs = if h.nbAnalogByFrame = 0 then 0 else a := by
    unfold Header.nbAnalogs
    rw [e2, e1]
    split
    next => rfl
    next hne => exact Nat.mul_div_cancel _ (Nat.pos_of_ne_zero hne)
  refine ⟨⟨?_, ?_, ?_⟩, ?_⟩
  · rw [e1, e2, e3]; split
    next h0 => rw [h0]; simp
    next => rfl
  · rw [e3]; split
    · unfold two31; omega
    · exact ha
  · rw [e2]; exact habf
  · intro hne; rw [e3, if_neg hne]

/-- `Header::nbAnalogByFrame(n)` is `nbAnalogs(nbAnalogs())` on the header with the new sub-frame count -/
theorem setABF_inv (h : Header) (n : Nat) (hi : HdrInv h) (hn : n < two32) :
    HdrInv (h.setNbAnalogByFrame n) ∧ (h.setNbAnalogByFrame n).nbAnalogByFrame = n ∧
    (h.setNbAnalogByFrame n).nbPoints = h.nbPoints ∧ (h.setNbAnalogByFrame n).rate = h.rate ∧
    (h.setNbAnalogByFrame n).firstFrame = h.firstFrame ∧ (h.setNbAnalogByFrame n).lastFrame = h.lastFrame :=
  ⟨(setA_inv { h with nbAnalogByFrame := n } h.nbAnalogs hn hi.small).1, rfl, rfl, rfl, rfl, rfl⟩

/-- `if (n != nbAnalogByFrame()) nbAnalogByFrame(n)`. Stated of a variable `h'` equal to the conditional, so that the conditional
    is written once; a caller passes `_ rfl` and `h'` becomes the term of its goal (likewise `syncA`) -/
theorem syncABF (h : Header) (n : Nat) (c : Prop) [Decidable c] (hn : ¬ c → h.nbAnalogByFrame = n) :
    ∀ h', h' = (if c then h.setNbAnalogByFrame n else h) →
    h'.nbPoints = h.nbPoints ∧ h'.rate = h.rate ∧ h'.nbAnalogByFrame = n ∧ (HdrInv h → n < two32 → HdrInv h') := by
  intro h' e
  by_cases hc : c
  · rw [if_pos hc] at e; subst e
    exact ⟨rfl, rfl, rfl, fun hi hn => (setABF_inv h n hi hn).1⟩
  · rw [if_neg hc] at e; subst e
    exact ⟨rfl, rfl, hn hc, fun hi _ => hi⟩

/-- `if (n != nbAnalogs()) nbAnalogs(n)` -/
theorem syncA (h : Header) (a : Nat) (c : Prop) [Decidable c] (hn : ¬ c → h.nbAnalogs = a) :
    ∀ h', h' = (if c then h.setNbAnalogs a else h) →
    h'.nbPoints = h.nbPoints ∧ h'.rate = h.rate ∧ h'.nbAnalogByFrame = h.nbAnalogByFrame ∧
    (HdrInv h → a < two31 → HdrInv h' ∧ (h.nbAnalogByFrame ≠ 0 → h'.nbAnalogs = a)) := by
  intro h' e
  by_cases hc : c
  · rw [if_pos hc] at e; subst e
    exact ⟨rfl, rfl, rfl, fun hi ha => setA_inv h a hi.abf ha⟩
  · rw [if_neg hc] at e; subst e
    exact ⟨rfl, rfl, rfl, fun hi _ => ⟨hi, fun _ => hn hc⟩⟩

/-- header and parameters agree (and the header agrees with the first stored frame on the sub-frame count) -/
structure HP (F : FloatOps) (gs : List Group) (frames : List Frame) (h : Header) : Prop where
  points : ∃ u, int0 gs POINT USED = .ok u ∧ h.nbPoints = intToU64 u
  rate : ∃ r, float0 gs POINT RATE = .ok r ∧ F.rateKey h.rate = F.rateKey r
  analogs : h.nbAnalogByFrame ≠ 0 → ∃ au, int0 gs ANALOG USED = .ok au ∧ h.nbAnalogs = intToU64 au ∧
              h.nbAnalogsMeas = intToU64 au * h.nbAnalogByFrame
  nframes : ¬ (h.nbPoints = 0 ∧ h.nbAnalogs = 0) → ∃ fr, int0 gs POINT FRAMES = .ok fr ∧ h.nbFrames = intToU64 fr
  subs : ∀ f0 t, frames = f0 :: t → f0.subs.length ≠ 0 → h.nbAnalogByFrame = f0.subs.length

theorem subFromRates_walk (F : FloatOps) (gs : List Group) (r : UInt32) (h : Header) :
    (subFromRates F gs r h).Walk (fun _ => True) (Mand gs) fun h' =>
      h'.nbPoints = h.nbPoints ∧ h'.rate = h.rate ∧ (HdrInv h → (∀ a b, F.ratioNat a b < two32) → HdrInv h') := by
  unfold subFromRates
  refine Outcome.walk_andThen (byName_noUB _ _ _) trivial (fun hM => let ⟨_, ga, _, hby, _⟩ := hM.group mem_slots_AU; ⟨ga, hby⟩) fun ga _ => ?_
  refine iteInduction (fun _ => ?_) fun _ => Outcome.walk_ok trivial ⟨rfl, rfl, fun hi _ => hi⟩
  refine iteInduction (fun _ => Outcome.walk_ok trivial ?_) fun _ =>
    Outcome.walk_andThen (float0_noUB _ _ _) trivial (fun hM => hM.float0 mem_slots_AR) fun ar _ => Outcome.walk_ok trivial ?_
  · obtain ⟨hpts, hrate, _, hinv⟩ := syncABF h 1 _ Decidable.not_not.mp _ rfl
    exact ⟨hpts, hrate, fun hi _ => hinv hi (by decide)⟩
  · obtain ⟨hpts, hrate, _, hinv⟩ := syncABF h (F.ratioNat ar r) (F.ratioNat ar r ≠ h.nbAnalogByFrame) (fun hc => (Decidable.not_not.mp hc).symm) _ rfl
    exact ⟨hpts, hrate, fun hi hF => hinv hi (hF _ _)⟩

theorem nbFrames_set (h : Header) (n : Nat) (hn : n < two64) (hne : ¬ (h.nbPoints = 0 ∧ h.nbAnalogs = 0)) :
    ({ h with firstFrame := 0, lastFrame := subU64 n 1 } : Header).nbFrames = n := by
  have e : ({ h with firstFrame := 0, lastFrame := subU64 n 1 } : Header).nbAnalogs = h.nbAnalogs := rfl
  unfold Header.nbFrames
  rw [e, if_neg hne]
  -- `lastFrame - 0 + 1` in `size_t`: wraps back to 0 when no frame is announced
  show u64 (subU64 (subU64 n 1) 0 + 1) = n
  cases n with
  | zero => decide
  | succ m =>
    rw [subU64_one _ (Nat.succ_pos m) hn, Nat.succ_sub_one, subU64_zero, u64_small _ (Nat.lt_of_succ_lt hn), u64_small _ hn]

/-- what a completed header update establishes, from header `h` to `h'`: the point count and the rate after every run (C05
    `updateHeader_points_rate`); the analog words and the frame count (`agree`) under five side conditions: the analog words exact beforehand
    (`HdrInv h`), the rate ratio and the first frame's sub-frame count below `2^32`, ANALOG:USED below `2^31`, an ANALOG group with a
    parameter (`Mand gs` gives the last, but the `post` of a walk is not under its `C`) -/
structure HeaderPost (F : FloatOps) (gs : List Group) (frames : List Frame) (h h' : Header) : Prop where
  points : ∃ u, int0 gs POINT USED = .ok u ∧ h'.nbPoints = intToU64 u
  rate : ∃ r, float0 gs POINT RATE = .ok r ∧ F.rateKey h'.rate = F.rateKey r
  agree : HdrInv h → (∀ a b, F.ratioNat a b < two32) → (∀ f0 t, frames = f0 :: t → f0.subs.length < two32) →
    (∀ au, int0 gs ANALOG USED = .ok au → intToU64 au < two31) →
    (∀ ga, byName Group.name gs ANALOG = .ok ga → ga.params.length ≠ 0) → HP F gs frames h' ∧ HdrInv h'

theorem updateHeaderH_walk (F : FloatOps) (gs : List Group) (frames : List Frame) (h : Header) :
    (updateHeaderH F gs frames h).Walk (fun _ => True) (Mand gs) (HeaderPost F gs frames h) := by
  -- five stages `h → h1 → h2 → h3 → h4 → h'`: rate, point count, sub-frame count, channel count, frame count. At stage `N`: `pN`, `rN`, `abfN` give
  -- `nbPoints`, `rate`, `nbAnalogByFrame` (the value set, or that of stage `N-1`); `invN` carries `HdrInv`; `kN` is what the stage adds under the side conditions
  unfold updateHeaderH
  refine Outcome.walk_andThen (float0_noUB _ _ _) trivial (fun hM => hM.float0 mem_slots_PR) fun rate hr => ?_
  extract_lets h1
  obtain ⟨r1, inv1⟩ : F.rateKey h1.rate = F.rateKey rate ∧ (HdrInv h → HdrInv h1) :=
    iteInduction (motive := fun x : Header => F.rateKey x.rate = F.rateKey rate ∧ (HdrInv h → HdrInv x))
      (fun _ => ⟨rfl, fun hi => ⟨hi.exact, hi.small, hi.abf⟩⟩) fun hne => ⟨(Decidable.not_not.mp hne).symm, id⟩
  refine Outcome.walk_andThen (int0_noUB _ _ _) trivial (fun hM => hM.int0 mem_slots_PU) fun used hu => ?_
  extract_lets h2 sub
  obtain ⟨p2, r2, inv2⟩ : h2.nbPoints = intToU64 used ∧ h2.rate = h1.rate ∧ (HdrInv h1 → HdrInv h2) :=
    iteInduction (motive := fun x : Header => x.nbPoints = intToU64 used ∧ x.rate = h1.rate ∧ (HdrInv h1 → HdrInv x))
      (fun _ => ⟨rfl, rfl, fun hi => ⟨hi.exact, hi.small, hi.abf⟩⟩) fun hne => ⟨(Decidable.not_not.mp hne).symm, rfl, id⟩
  -- the sub-frame count (`sub`: from the first stored frame, else from the rate ratio)
  refine Outcome.walk_bind (R := fun h3 => h3.nbPoints = h2.nbPoints ∧ h3.rate = h2.rate ∧
      (HdrInv h2 → (∀ a b, F.ratioNat a b < two32) → (∀ f0 t, frames = f0 :: t → f0.subs.length < two32) → HdrInv h3 ∧
        ∀ f0 t, frames = f0 :: t → f0.subs.length ≠ 0 → h3.nbAnalogByFrame = f0.subs.length)) ?_ fun h3 _ i3 => ?_
  · have hsf := subFromRates_walk F gs rate h2
    cases frames with
    | nil => exact Outcome.walk_mono hsf fun h3 ⟨hpts, hrate, hinv⟩ => ⟨hpts, hrate, fun hi hF _ => ⟨hinv hi hF, fun _ _ hc => by cases hc⟩⟩
    | cons f0 t =>
      refine iteInduction (fun _ => Outcome.walk_ok trivial ?_) fun h0 => Outcome.walk_mono hsf fun h3 ⟨hpts, hrate, hinv⟩ =>
        ⟨hpts, hrate, fun hi hF _ => ⟨hinv hi hF, fun _ _ hc hne => by cases hc; exact absurd hne h0⟩⟩
      obtain ⟨hpts, hrate, habf, hinv⟩ :=
        syncABF h2 f0.subs.length (f0.subs.length ≠ h2.nbAnalogByFrame) (fun hc => (Decidable.not_not.mp hc).symm) _ rfl
      exact ⟨hpts, hrate, fun hi _ hs => ⟨hinv hi (hs f0 t rfl), fun _ _ hc _ => by cases hc; exact habf⟩⟩
  obtain ⟨p3, r3, k3⟩ := i3
  refine Outcome.walk_andThen (byName_noUB _ _ _) trivial (fun hM => let ⟨_, ga, _, hby, _⟩ := hM.group mem_slots_AU; ⟨ga, hby⟩) fun ga hga => ?_
  -- the channel count, from ANALOG:USED unless the ANALOG group is empty; it reads back as set only with at least one sub-frame
  refine Outcome.walk_bind (R := fun h4 => h4.nbPoints = h3.nbPoints ∧ h4.rate = h3.rate ∧ h4.nbAnalogByFrame = h3.nbAnalogByFrame ∧
      (HdrInv h3 → (∀ au, int0 gs ANALOG USED = .ok au → intToU64 au < two31) → ga.params.length ≠ 0 → HdrInv h4 ∧
        (h4.nbAnalogByFrame ≠ 0 → ∃ au, int0 gs ANALOG USED = .ok au ∧ h4.nbAnalogs = intToU64 au))) ?_ fun h4 _ i4 => ?_
  · refine iteInduction (fun _ => Outcome.walk_andThen (int0_noUB _ _ _) trivial (fun hM => hM.int0 mem_slots_AU) fun au hau => Outcome.walk_ok trivial ?_)
      fun h0 => Outcome.walk_ok trivial ⟨rfl, rfl, rfl, fun _ _ hne => absurd hne h0⟩
    obtain ⟨hpts, hrate, habf, hinv⟩ := syncA h3 (intToU64 au) (intToU64 au ≠ h3.nbAnalogs) (fun hc => (Decidable.not_not.mp hc).symm) _ rfl
    exact ⟨hpts, hrate, habf, fun hi hs _ => ⟨(hinv hi (hs au hau)).1, fun hne => ⟨au, hau, (hinv hi (hs au hau)).2 (habf ▸ hne)⟩⟩⟩
  obtain ⟨p4, r4, abf4, k4⟩ := i4
  -- the frame count: setting first and last frame touches none of the words above
  refine Outcome.walk_andThen (int0_noUB _ _ _) trivial (fun hM => hM.int0 mem_slots_PF) fun fr hfr => ?_
  refine Outcome.walk_mono (Q := fun h' => h'.nbPoints = h4.nbPoints ∧ h'.rate = h4.rate ∧ h'.nbAnalogByFrame = h4.nbAnalogByFrame ∧
      h'.nbAnalogs = h4.nbAnalogs ∧ h'.nbAnalogsMeas = h4.nbAnalogsMeas ∧ (¬ (h'.nbPoints = 0 ∧ h'.nbAnalogs = 0) → h'.nbFrames = intToU64 fr))
    (iteInduction (fun _ => Outcome.walk_ok trivial ⟨rfl, rfl, rfl, rfl, rfl, nbFrames_set h4 _ (intToU64_lt fr)⟩)
      fun hc => Outcome.walk_ok trivial ⟨rfl, rfl, rfl, rfl, rfl, fun _ => (Decidable.not_not.mp hc).symm⟩) fun h' ⟨nP, nR, nABF, nA, nM, nF⟩ => ?_
  have hP : ∃ u, int0 gs POINT USED = .ok u ∧ h'.nbPoints = intToU64 u := ⟨used, hu, by rw [nP, p4, p3, p2]⟩
  have hR : ∃ r, float0 gs POINT RATE = .ok r ∧ F.rateKey h'.rate = F.rateKey r := ⟨rate, hr, by rw [nR, r4, r3, r2, r1]⟩
  refine ⟨hP, hR, fun hi hF hsub hau hgne => ?_⟩
  obtain ⟨hi3, hs3⟩ := k3 (inv2 (inv1 hi)) hF hsub
  obtain ⟨hi4, ha4⟩ := k4 hi3 hau (hgne ga hga)
  have hinv' : HdrInv h' := ⟨by rw [nM, nA, nABF]; exact hi4.exact, by rw [nA]; exact hi4.small, by rw [nABF]; exact hi4.abf⟩
  refine ⟨⟨hP, hR, ?_, ?_, ?_⟩, hinv'⟩
  · intro hne
    rw [nABF] at hne
    obtain ⟨au, h1, h2⟩ := ha4 hne
    exact ⟨au, h1, by rw [nA]; exact h2, by rw [hinv'.exact, nA, h2]⟩
  · exact fun hne => ⟨fr, hfr, nF hne⟩
  · intro f0 t hft hne
    rw [nABF, abf4]
    exact hs3 f0 t hft hne

theorem updateHeaderH_ok (F : FloatOps) {gs : List Group} (hM : Mand gs) (frames : List Frame) (h : Header) :
    ∃ h', updateHeaderH F gs frames h = .ok h' :=
  (updateHeaderH_walk F gs frames h).completes hM

theorem updateHeader_walk (F : FloatOps) (s : C3D) :
    (updateHeader F s).Walk (fun c => c.groups = s.groups ∧ c.frames = s.frames ∧ c.ph = s.ph) (Mand s.groups) fun c =>
      ∃ hd, c = { s with hdr := hd } ∧ HeaderPost F s.groups s.frames s.hdr hd :=
  Outcome.walk_lift (updateHeaderH_walk F _ _ _) (fun _ _ => ⟨rfl, rfl, rfl⟩) fun hd h => ⟨hd, rfl, h⟩

theorem updateParameters_allN (F : FloatOps) {I : List Group → Prop} (hI : Kept I) (s : C3D) (np na : List Bytes) (h : I s.groups) :
    (updateParameters F s np na).AllN fun c => I c.groups ∧ c.frames = s.frames ∧ c.ph = s.ph := by
  unfold updateParameters
  refine iteInduction (fun _ => Outcome.allN_throw _ ⟨h, rfl, rfl⟩) fun _ => iteInduction (fun _ => Outcome.allN_throw _ ⟨h, rfl, rfl⟩) fun _ => ?_
  have halves : ((updatePointParams s.groups s.frames np).bind fun g => updateAnalogParams g s.frames na).AllN I :=
    Outcome.allN_bind (updatePointParams_walk hI h _ _).allN (hQ := fun _ x => x) fun g hg => (updateAnalogParams_walk hI hg _ _).allN
  refine Outcome.allN_bind (Outcome.allN_lift halves fun g hg => ⟨hg, rfl, rfl⟩) (hQ := fun _ x => x) fun c hc => ?_
  exact Outcome.allN_mono (updateHeader_walk F c).allN fun c' hc' => by rw [hc'.1, hc'.2.1, hc'.2.2]; exact hc

theorem updateParameters_frames {F : FloatOps} {s s' : C3D} {np na : List Bytes}
    (h : updateParameters F s np na = .ok s') : s'.frames = s.frames :=
  (Outcome.all_of_ok (updateParameters_allN F kept_true s np na trivial).all h).2.1

theorem updateParameters_frames_throw {F : FloatOps} {s l : C3D} {np na : List Bytes} {e : Exc}
    (h : updateParameters F s np na = .throw e l) : l.frames = s.frames :=
  (Outcome.all_of_throw (updateParameters_allN F kept_true s np na trivial).all h).2.1

/-- `hg`: the guard of `updateParameters` itself (a point or channel declared by name while frames are stored) does not fire -/
theorem updateParameters_ok_of_Mand (F : FloatOps) {s : C3D} (hM : Mand s.groups) (np na : List Bytes)
    (hg : ¬ (s.frames.length ≠ 0 ∧ (np.length > 0 ∨ na.length > 0))) :
    ∃ g hd, updateParameters F s np na = .ok { s with groups := g, hdr := hd } ∧ Mand g := by
  have w := updatePointParams_walk kept_Mand hM s.frames np
  obtain ⟨g1, h1⟩ := w.completes {
    framesAt := hM.gpIdx mem_slots_PF, nFrames := hM.int0 mem_slots_PF, labels := hM.strsOf mem_slots_PL
    nUsed := hM.int0 mem_slots_PU, usedAt := hM.gpIdx mem_slots_PU, labelsAt := hM.gpIdx mem_slots_PL }
  have hM1 := Outcome.all_of_ok w.allN.all h1
  have w := updateAnalogParams_walk kept_Mand hM1 s.frames na
  obtain ⟨g2, h2⟩ := w.completes fun _ hg => hg
  have hM2 := Outcome.all_of_ok w.allN.all h2
  unfold updateParameters
  rw [if_neg (by intro h; exact hg ⟨h.1, Or.inl h.2⟩), if_neg (by intro h; exact hg ⟨h.1, Or.inr h.2⟩)]
  have w := updateHeader_walk F { s with groups := g2 }
  obtain ⟨c, hh⟩ := w.completes hM2
  obtain ⟨hd, rfl, _⟩ := w.post c hh
  exact ⟨g2, hd, Outcome.bind_ok_iff.mpr ⟨_, Outcome.lift_ok_iff.mpr ⟨g2, Outcome.bind_ok_iff.mpr ⟨g1, h1, h2⟩, rfl⟩, hh⟩, hM2⟩

end Ezc3d
