import Ezc3dVerif.Model.Codec
/-
  The C integer conversions on the ranges where nothing wraps, and the byte codec as arithmetic: on at most four bytes
  `hex2uint` is the little-endian value `leNat` and `hex2int` its balanced residue modulo `256 ^ n`; the writers'
  "low n bytes" are `leBytes n`. Every read-back statement of C12/C17 is an instance.
-/
namespace Ezc3d

theorem u64_small (n : Nat) (h : n < two64) : u64 n = n := Nat.mod_eq_of_lt h

theorem u64_lt (n : Nat) : u64 n < two64 := Nat.mod_lt _ (by decide)

theorem u64_pred (n : Nat) (h1 : 1 ≤ n) (h2 : n < two64) : u64 (n + two64 - 1) = n - 1 := by
  unfold u64
  rw [Nat.sub_add_comm h1, Nat.add_mod_right, Nat.mod_eq_of_lt (Nat.lt_of_le_of_lt (Nat.sub_le _ _) h2)]

theorem subU64_one (a : Nat) (h1 : 1 ≤ a) (h2 : a < two64) : subU64 a 1 = a - 1 :=
  u64_pred a h1 h2

theorem subU64_zero (a : Nat) : subU64 a 0 = u64 a := by
  unfold subU64 u64
  rw [Nat.zero_mod, Nat.sub_zero, Nat.add_mod_right]

theorem subU64_succ (x : Nat) (h : x < two64) : subU64 (u64 (x + 1)) 1 = x := by
  unfold subU64 u64 two64 at *; omega

theorem u64ToI32_of_lt (n : Nat) (h : n < two31) : u64ToI32 n = n := by
  unfold u64ToI32
  rw [Nat.mod_eq_of_lt (Nat.lt_trans h (by decide)), if_pos h]

theorem u64ToI32_of_ge (n : Nat) (h1 : 2147483648 ≤ n) (h2 : n < 4294967296) : u64ToI32 n = n - 4294967296 := by
  have : n % two32 = n := Nat.mod_eq_of_lt h2
  simp only [u64ToI32, this, two31, Nat.not_lt.mpr h1, if_false]; rfl

theorem intToU64_natCast (n : Nat) (h : n < two64) : intToU64 (n : Int) = n := by
  unfold intToU64
  rw [Int.emod_eq_of_lt (Int.natCast_nonneg n) (Int.ofNat_lt.mpr h), Int.toNat_natCast]

theorem intToU64_lt (i : Int) : intToU64 i < two64 :=
  (Int.toNat_lt (Int.emod_nonneg i (by decide))).mpr (Int.emod_lt_of_pos i (by decide))

theorem intToU64_u64ToI32 (n : Nat) (h : n < two31) : intToU64 (u64ToI32 n) = n := by
  rw [u64ToI32_of_lt n h, intToU64_natCast n (Nat.lt_trans h (by decide))]

theorem wrapU32_small (n : Nat) (h : n < 4294967296) : wrapU32 (n : Int) = n := by
  rw [wrapU32, two32, Int.emod_eq_of_lt (Int.natCast_nonneg n) (Int.ofNat_lt.mpr h), Int.toNat_natCast]

theorem mul_small {a b : Nat} (ha : a < two31) (hb : b < two32) : a * b < two64 := by
  have : a * b < two31 * two32 := Nat.mul_lt_mul'' ha hb
  unfold two31 two32 two64 at *; omega

def leNat : Bytes → Nat
  | [] => 0
  | b :: t => b.toNat + 256 * leNat t

def leBytes : Nat → Int → Bytes
  | 0, _ => []
  | n + 1, v => UInt8.ofNat (v % 256).toNat :: leBytes n (v / 256)

theorem leNat_lt (bs : Bytes) : leNat bs < 256 ^ bs.length := by
  induction bs with
  | nil => decide
  | cons b t ih =>
    have hb : b.toNat < 256 := UInt8.toNat_lt b
    rw [leNat, List.length_cons, Nat.pow_succ]
    omega

theorem or_eq_add (i a x : Nat) (ha : a < 256 ^ i) : a ||| 256 ^ i * x = a + 256 ^ i * x := by
  have e : (256 : Nat) ^ i = 2 ^ (8 * i) := by rw [Nat.pow_mul]
  rw [e] at ha ⊢
  rw [Nat.or_comm, ← Nat.two_pow_add_eq_or_of_lt ha, Nat.add_comm]

/-- within four bytes the product does not wrap, and it lies above everything accumulated so far, so `|||` adds -/
theorem hex2uintAux_eq (bs : Bytes) : ∀ (i acc : Nat), i + bs.length ≤ 4 → acc < 256 ^ i →
    hex2uintAux bs i acc = acc + 256 ^ i * leNat bs := by
  induction bs with
  | nil => intro i acc _ _; rfl
  | cons b t ih =>
    intro i acc hi hacc
    rw [List.length_cons] at hi
    have hb : b.toNat ≤ 255 := Nat.le_of_lt_succ (UInt8.toNat_lt b)
    have hp : (256 : Nat) ^ (i + 1) ≤ 256 ^ 4 := Nat.pow_le_pow_right (by decide) (by omega)
    have hle : 256 ^ i * b.toNat ≤ 256 ^ i * 255 := Nat.mul_le_mul_left _ hb
    have hw : wrapU32 ((b.toNat : Int) * powTerm i) = 256 ^ i * b.toNat := by
      rw [powTerm, if_pos (by omega), Int.mul_comm]
      exact wrapU32_small (256 ^ i * b.toNat) (by omega)
    rw [hex2uintAux, hw, or_eq_add i acc _ hacc, ih (i + 1) _ (by omega) (by rw [Nat.pow_succ]; omega), leNat,
      Nat.pow_succ, Nat.mul_add, Nat.mul_assoc, Nat.add_assoc]

theorem hex2uint_eq (bs : Bytes) (h : bs.length ≤ 4) : hex2uint bs = leNat bs := by
  rw [hex2uint, hex2uintAux_eq bs 0 0 (by omega) (by decide), Nat.pow_zero, Nat.one_mul, Nat.zero_add]

/-- zero bytes contribute nothing, whatever the (undefined) conversion of their power of 256 produces:
    the reserved runs of real files, which are zero, decode to 0 on every build -/
theorem hex2uintAux_zeros (n i acc : Nat) : hex2uintAux (List.replicate n 0) i acc = acc := by
  induction n generalizing i acc with
  | zero => rfl
  | succ k ih =>
    rw [List.replicate_succ, hex2uintAux, ih]
    simp [wrapU32]

theorem bmod_natCast (m M : Nat) (hm : m < 2 * M) :
    Int.bmod m (2 * M) = if m < M then (m : Int) else (m : Int) - (2 * M : Nat) := by
  rw [Int.bmod_def, Int.emod_eq_of_lt (Int.natCast_nonneg m) (Int.ofNat_lt.mpr hm)]
  by_cases h : m < M
  · rw [if_pos h, if_pos (by omega)]
  · rw [if_neg h, if_neg (by omega)]

/-- the whole of `hex2int`, for a range of `2 * H` values: `hexMax n` is `2 * H - 1`, so the half-range test `tp > mx / 2`
    is `m > H - 1`, and the upper half comes back as `m - 2 * H`, computed modulo 2^32 and narrowed to `int`: the balanced residue -/
theorem halfRange_bmod (m H : Nat) (hm : m < 2 * H) (hT : H ≤ 2147483648) :
    (if m > H - 1 then u64ToI32 ((m + two32 - (2 * H - 1) - 1) % two32) else u64ToI32 m) = Int.bmod m (2 * H) := by
  rw [bmod_natCast m H hm]
  by_cases h : m < H
  · rw [if_neg (Nat.not_lt.mpr (Nat.le_sub_one_of_lt h)), if_pos h, u64ToI32_of_lt _ (Nat.lt_of_lt_of_le h hT)]
  · have ⟨k0, k1, k2, k3⟩ : 0 < H ∧ 2 * H ≤ m + 4294967296 ∧ m + 4294967296 < 2 * H + 4294967296 ∧
        2147483648 + 2 * H ≤ m + 4294967296 := by omega
    have k4 := Nat.sub_lt_left_of_lt_add k1 k2
    rw [if_pos (Nat.sub_one_lt_of_le k0 (Nat.le_of_not_lt h)), if_neg h, two32, Nat.sub_sub,
      Nat.sub_add_cancel (Nat.mul_pos (by decide) k0), Nat.mod_eq_of_lt k4,
      u64ToI32_of_ge _ (Nat.le_sub_of_add_le k3) k4, Int.natCast_sub k1, Int.natCast_add]
    omega

theorem hex2int_eq (bs : Bytes) (n : Nat) (hn : bs.length = n) (h : n ≤ 4) :
    hex2int bs = Int.bmod (hex2uint bs) (256 ^ n) := by
  have hlt : hex2uint bs < 256 ^ n := by rw [hex2uint_eq bs (hn ▸ h), ← hn]; exact leNat_lt bs
  unfold hex2int
  rw [hn]
  have : n = 0 ∨ n = 1 ∨ n = 2 ∨ n = 3 ∨ n = 4 := by omega
  rcases this with rfl | rfl | rfl | rfl | rfl
  · rw [List.eq_nil_of_length_eq_zero hn]; rfl
  -- for each length `hexMax n` and `hexMax n / 2` evaluate to the `2 * H - 1` and `H - 1` of `halfRange_bmod`
  · exact halfRange_bmod _ 128 hlt (by decide)
  · exact halfRange_bmod _ 32768 hlt (by decide)
  · exact halfRange_bmod _ 8388608 hlt (by decide)
  · exact halfRange_bmod _ 2147483648 hlt (by decide)

theorem hex2int_zeros (n : Nat) : hex2int (List.replicate n 0) = 0 := by
  unfold hex2int hex2uint
  rw [hex2uintAux_zeros]
  simp only [Nat.not_lt_zero, if_false, gt_iff_lt]
  decide

theorem hex2uint_4 (a b c d : UInt8) :
    hex2uint [a, b, c, d] = a.toNat + 256 * b.toNat + 65536 * c.toNat + 16777216 * d.toNat := by
  rw [hex2uint_eq _ (by simp)]; simp only [leNat]; omega

theorem low8N_toNat (n : Nat) (h : n < 256) : (low8N n).toNat = n := by
  rw [low8N, low8, Int.emod_eq_of_lt (Int.natCast_nonneg n) (by omega), Int.toNat_natCast, UInt8.toNat_ofNat_of_lt' h]

theorem leBytes_length (n : Nat) : ∀ v, (leBytes n v).length = n := by
  induction n with
  | zero => intro v; rfl
  | succ k ih => intro v; rw [leBytes, List.length_cons, ih]

/-- `Nat.mod_mul` for `Int`: the right side is a remainder of `x` by `a * b`, with quotient `x / a / b` -/
theorem emod_mul (x a b : Int) (ha : 0 < a) (hb : 0 < b) : x % (a * b) = x % a + a * (x / a % b) := by
  have h1 : x / a % b + 1 ≤ b := Int.emod_lt_of_pos _ hb
  have h2 := Int.mul_le_mul_of_nonneg_left h1 (Int.le_of_lt ha)
  rw [Int.mul_add, Int.mul_one] at h2
  have h3 := Int.emod_lt_of_pos x ha
  refine ((Int.ediv_emod_unique (q := x / a / b) (Int.mul_pos ha hb)).mpr ⟨?_, ?_, by omega⟩).2
  · rw [Int.add_assoc, Int.mul_assoc, ← Int.mul_add, Int.emod_add_mul_ediv, Int.emod_add_mul_ediv]
  · exact Int.add_nonneg (Int.emod_nonneg _ (Int.ne_of_gt ha)) (Int.mul_nonneg (Int.le_of_lt ha) (Int.emod_nonneg _ (Int.ne_of_gt hb)))

theorem leNat_leBytes (n : Nat) : ∀ v : Int, (leNat (leBytes n v) : Int) = v % ((256 ^ n : Nat) : Int) := by
  induction n with
  | zero => intro v; simp [leBytes, leNat, Int.emod_one]
  | succ k ih =>
    intro v
    have h0 : 0 ≤ v % 256 := Int.emod_nonneg _ (by decide)
    rw [leBytes, leNat, UInt8.toNat_ofNat_of_lt' (show _ < 256 by omega), Int.natCast_add, Int.natCast_mul, ih, Int.toNat_of_nonneg h0,
      Nat.pow_succ, Nat.mul_comm, Int.natCast_mul, emod_mul v _ _ (by decide) (Int.ofNat_lt.mpr (Nat.pow_pos (by decide)))]
    rfl   -- the two sides differ in `((256 : Nat) : Int)` against `(256 : Int)`

theorem hex2uint_leBytes (n : Nat) (v : Int) (h : n ≤ 4) : (hex2uint (leBytes n v) : Int) = v % ((256 ^ n : Nat) : Int) := by
  rw [hex2uint_eq _ (by rw [leBytes_length]; exact h), leNat_leBytes]

theorem hex2uint_leBytes_nat (n m : Nat) (h : n ≤ 4) : hex2uint (leBytes n m) = m % 256 ^ n :=
  Int.ofNat.inj ((hex2uint_leBytes n m h).trans (Int.natCast_emod m _).symm)

theorem hex2int_leBytes (n : Nat) (v : Int) (h : n ≤ 4) : hex2int (leBytes n v) = Int.bmod v (256 ^ n) := by
  rw [hex2int_eq _ n (leBytes_length n v) h, hex2uint_leBytes n v h, Int.emod_bmod]

theorem low8_eq (v : Int) : [low8 v] = leBytes 1 v := rfl

theorem le16_eq (v : Int) : le16 v = leBytes 2 v := rfl

theorem le32_eq (v : Int) : le32 v = leBytes 4 v := by
  simp only [le32, leBytes, Int.ediv_ediv_of_nonneg (show (0 : Int) ≤ 256 by decide),
    Int.ediv_ediv_of_nonneg (show (0 : Int) ≤ 65536 by decide), Int.reduceMul]

theorem f32le_eq (v : UInt32) : f32le v = leBytes 4 (v.toNat : Int) := by
  rw [← le32_eq]
  congr <;> omega

theorem low8_mod (x : Int) : low8 (x % 256) = low8 x := by
  unfold low8; rw [Int.emod_emod_of_dvd x (Int.dvd_refl 256)]

theorem le16_byte (v : Int) (h1 : 0 ≤ v) (h2 : v < 256) : le16 v = [low8 v, 0] := by
  unfold le16 low8
  rw [Int.ediv_eq_zero_of_lt h1 h2]; rfl

theorem le32_read (v : Int) (h1 : -2147483648 ≤ v) (h2 : v < 2147483648) : hex2int (le32 v) = v := by
  rw [le32_eq, hex2int_leBytes 4 v (by decide)]
  exact Int.bmod_eq_of_le_mul_two (by omega) (by omega)

end Ezc3d
