import Ezc3dVerif.Proofs.Updaters
import Ezc3dVerif.Proofs.Codec
/-
  What the updaters ESTABLISH (post-conditions), for C05: after a completed `updateParameters` the POINT / ANALOG
  count parameters are what the stored data say, and the header is what those parameters say. For each half of
  `updateParameters` the `_post` form, which spells out what is untouched, is a corollary of the `post` field of its walk
  (Proofs/Updaters.lean); so is `updateHeaderH_post` for the header update.
-/
namespace Ezc3d
open N

theorem updatePointParams_post (gs : List Group) (frames : List Frame) (np : List Bytes) (ol : List Bytes)
    (hol : strsOf gs POINT LABELS = .ok ol)
    (hfl : frames.length < two31) (hpn : (pointNames frames ol np).length < two31) :
    (updatePointParams gs frames np).Ok fun g' =>
      (∃ fr, int0 g' POINT FRAMES = .ok fr ∧ intToU64 fr = frames.length) ∧
      (∃ u, int0 g' POINT USED = .ok u ∧ intToU64 u = (pointNames frames ol np).length) ∧
      (∃ l, strsOf g' POINT LABELS = .ok l ∧ (l = pointNames frames ol np ∨ l = ol)) ∧
      (∀ g p, groupIdx gs g ≠ groupIdx gs POINT → getParam g' g p = getParam gs g p) ∧
      (∀ g, groupIdx g' g = groupIdx gs g) :=
  Outcome.ok_mono (updatePointParams_walk kept_true trivial frames np).post fun _ h =>
    let ⟨hF, hU, hL⟩ := h.2 ol hol hfl hpn
    ⟨hF, hU, hL, fun g p hg => h.1.other g p fun e => hg (e ▸ rfl), h.1.grp⟩

theorem updateAnalogParams_post (gs : List Group) (frames : List Frame) (na : List Bytes) (oa : List Bytes)
    (hoa : strsOf gs ANALOG LABELS = .ok oa) (hcn : (channelNames frames oa na).length < two31) :
    (updateAnalogParams gs frames na).Ok fun g' =>
      (∃ u, int0 g' ANALOG USED = .ok u ∧ intToU64 u = (channelNames frames oa na).length) ∧
      (∃ l, strsOf g' ANALOG LABELS = .ok l ∧ (l = channelNames frames oa na ∨ l = oa)) ∧
      (∀ g p, groupIdx gs g ≠ groupIdx gs ANALOG → getParam g' g p = getParam gs g p) ∧
      (∀ p, p ≠ USED → p ≠ LABELS → p ≠ DESCRIPTIONS → p ≠ SCALE → p ≠ OFFSET → p ≠ UNITS → getParam g' ANALOG p = getParam gs ANALOG p) ∧
      (∀ g, groupIdx g' g = groupIdx gs g) :=
  Outcome.ok_mono (updateAnalogParams_walk kept_true trivial frames na).post fun _ h =>
    let ⟨hU, hL⟩ := h.2 oa hoa hcn
    ⟨hU, hL, fun g p hg => h.1.other g p fun e => hg (e ▸ rfl),
      fun p h1 h2 h3 h4 h5 h6 => h.1.get ANALOG p fun h => by simp [h1, h2, h3, h4, h5, h6] at h, h.1.grp⟩

theorem updateHeaderH_post (F : FloatOps) (gs : List Group) (frames : List Frame) (h h' : Header)
    (hi : HdrInv h) (hF : ∀ a b, F.ratioNat a b < two32)
    (hsub : ∀ f0 t, frames = f0 :: t → f0.subs.length < two32)
    (hau : ∀ au, int0 gs ANALOG USED = .ok au → intToU64 au < two31)
    (hgne : ∀ ga, byName Group.name gs ANALOG = .ok ga → ga.params.length ≠ 0)
    (hok : updateHeaderH F gs frames h = .ok h') : HP F gs frames h' ∧ HdrInv h' :=
  ((updateHeaderH_walk F gs frames h).post h' hok).agree hi hF hsub hau hgne

/-- the counts that POINT:USED and ANALOG:USED read back as after `updateParameters`: those of the first stored frame, or without
    frames the old labels plus the declared names; named so that the range hypotheses (`C05.Small`) can speak of them -/
def nPointNames (frames : List Frame) (ol np : List Bytes) : Nat := (pointNames frames ol np).length
def nChannelNames (frames : List Frame) (oa na : List Bytes) : Nat := (channelNames frames oa na).length

/-- every frame / point / channel mutator ends with `updateParameters`; C05 `mutator_agree` is read off this -/
theorem updateParameters_post (F : FloatOps) (s s' : C3D) (np na : List Bytes) (ol oa : List Bytes)
    (hol : strsOf s.groups POINT LABELS = .ok ol) (hoa : strsOf s.groups ANALOG LABELS = .ok oa)
    (hi : HdrInv s.hdr) (hF : ∀ a b, F.ratioNat a b < two32)
    (hfl : s.frames.length < two31) (hpn : nPointNames s.frames ol np < two31) (hcn : nChannelNames s.frames oa na < two31)
    (hsub : ∀ f0 t, s.frames = f0 :: t → f0.subs.length < two32)
    (h : updateParameters F s np na = .ok s') :
    s'.frames = s.frames ∧ HP F s'.groups s'.frames s'.hdr ∧ HdrInv s'.hdr ∧
    (∃ fr, int0 s'.groups POINT FRAMES = .ok fr ∧ intToU64 fr = s.frames.length) ∧
    (∃ u, int0 s'.groups POINT USED = .ok u ∧ intToU64 u = nPointNames s.frames ol np) ∧
    (∃ u, int0 s'.groups ANALOG USED = .ok u ∧ intToU64 u = nChannelNames s.frames oa na) := by
  unfold updateParameters at h
  obtain ⟨_, h⟩ := Outcome.ite_throw_eq_ok_iff.mp h
  obtain ⟨_, h⟩ := Outcome.ite_throw_eq_ok_iff.mp h
  obtain ⟨s1, h1, h2⟩ := Outcome.bind_ok_iff.mp h
  obtain ⟨g2, hg2, rfl⟩ := Outcome.lift_ok_iff.mp h1
  obtain ⟨g1, hg1, hg2⟩ := Outcome.bind_ok_iff.mp hg2
  -- each half leaves the look-ups of the other group as they were
  have hP := (updatePointParams_walk kept_true trivial s.frames np).post g1 hg1
  obtain ⟨⟨fr, hfr, hfrv⟩, ⟨u, hu, huv⟩, _⟩ := hP.2 ol hol hfl hpn
  have hoa1 : strsOf g1 ANALOG LABELS = .ok oa := (strsOf_congr (hP.1.other ANALOG LABELS (by decide))).trans hoa
  have hA := (updateAnalogParams_walk kept_true trivial s.frames na).post g2 hg2
  obtain ⟨⟨au, hau, hauv⟩, _⟩ := hA.2 oa hoa1 hcn
  have hfr2 : int0 g2 POINT FRAMES = .ok fr := (int0_congr (hA.1.other POINT FRAMES (by decide))).trans hfr
  have hu2 : int0 g2 POINT USED = .ok u := (int0_congr (hA.1.other POINT USED (by decide))).trans hu
  obtain ⟨hd, rfl, hH⟩ := (updateHeader_walk F _).post _ h2
  obtain ⟨qU, hqU, _⟩ := Res.bind_ok_iff.mp hau
  obtain ⟨hp, hinv⟩ := hH.agree hi hF hsub (by intro au' hau'; rw [hau] at hau'; cases hau'; rw [hauv]; exact hcn) (getParam_nonempty hqU)
  exact ⟨rfl, hp, hinv, ⟨fr, hfr2, hfrv⟩, ⟨u, hu2, huv⟩, ⟨au, hau, hauv⟩⟩

end Ezc3d
