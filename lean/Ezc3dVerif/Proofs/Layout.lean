import Ezc3dVerif.Proofs.AnyOrder
import Ezc3dVerif.Proofs.HeaderRT
import Ezc3dVerif.Proofs.ReadAppend
/-
  The vendor layouts: Z zero bytes before the header, the parameter section in block `pa` (not
  necessarily 2), a zeroed prologue (Qualisys), records in any order. The loader's three stages behind the header on such a
  file (`readPrologue_layout`, `readParameters_layout`, `readData_layout`), where it seeks to (`layout_file`), and the whole
  load, `load_layout`, which is C02.
-/
namespace Ezc3d
open C12 N

/-- the start of the parameter section, computed in `size_t` and narrowed to `int` -/
theorem seekOff (pa z n : Nat) (hpa : 1 ≤ pa) (hn : n = 512 * (pa - 1) + z) (h : n < two31) :
    u64ToI32 (u64 (512 * subU64 pa 1 + z)) = (n : Int) := by
  have h64 : two31 < two64 := by decide
  rw [subU64_one pa hpa (by omega), ← hn, u64_small _ (Nat.lt_trans h h64), u64ToI32_of_lt _ h]

/-- the byte before the data section: `… + 512 * nbBlocks - 1`, the `- 1` taken modulo 2^64 -/
theorem seekOff_pred (pa z k n : Nat) (hpa : 1 ≤ pa) (hn : n + 1 = 512 * (pa - 1) + z + k) (h : n + 1 < two31) :
    u64ToI32 (u64 (512 * subU64 pa 1 + z + k + two64 - 1)) = (n : Int) := by
  have h64 : two31 < two64 := by decide
  rw [subU64_one pa hpa (by omega), ← hn, u64_pred _ (Nat.le_add_left 1 n) (Nat.lt_trans h h64), Nat.add_sub_cancel,
    u64ToI32_of_lt _ (Nat.lt_of_succ_lt h)]

/-- `zp`: the first two bytes of the section are zero (Qualisys) and the loader patches them to 1, 0x50 -/
theorem readPrologue_layout (hdr : Header) (s0 : InStream) (file pre t0 : Bytes) (nb : Nat) (zp : Bool)
    (hpre : pre.length = 512 * (hdr.paramAddr - 1) + hdr.zeros) (hpa : 1 ≤ hdr.paramAddr) (hsmall : file.length + 2 < two31)
    (hnb : nb < 256) (hfile : OnFile s0 file)
    (hfe : file = pre ++ ((if zp then 0 else low8N 1) :: (if zp then 0 else 0x50) :: low8N nb :: 84 :: t0)) :
    readPrologue s0 hdr = ({ start := 1, checksum := 0x50, nbBlocks := nb, processor := 84 },
      (InStream.open_ file).adv t0 (pre.length + 4)) := by
  have hfl : pre.length < two31 := by
    rw [hfe, List.length_append] at hsmall; omega
  have hf : (InStream.open_ file).failed = false := rfl
  unfold readPrologue
  rw [seekOff hdr.paramAddr hdr.zeros pre.length hpa hpre hfl, seekBeg_at s0 file pre _ hfile hfe]
  cases zp <;> simp [adv_readByte, adv_readUint1 _ _ _ _ hnb hf, adv_readUint1 _ 1 _ _ (by decide) hf, hf]

theorem readParameters_layout (hdr : Header) (s0 : InStream) (file pre pad : Bytes) (nb : Nat) (zp : Bool) (rs : List Rec)
    (hpre : pre.length = 512 * (hdr.paramAddr - 1) + hdr.zeros) (hpa : 1 ≤ hdr.paramAddr) (hnb : nb < 256)
    (hv : ∀ r ∈ rs, r.Valid) (hfile : OnFile s0 file)
    (hfe : file = pre ++ ((if zp then 0 else low8N 1) :: (if zp then 0 else 0x50) :: low8N nb :: 84 :: (recsBytes rs ++ 0 :: pad)))
    (hsmall : file.length + 2 < two31) :
    ∃ s', readParameters s0 hdr = .ok (({ start := 1, checksum := 0x50, nbBlocks := nb, processor := 84 }, rs.foldl applyRec []), s')
      ∧ OnFile s' file := by
  have hfl : file.length = pre.length + 4 + (recsBytes rs ++ 0 :: pad).length := by
    rw [hfe]; simp only [List.length_append, List.length_cons]; omega
  have hso := streamOK_at file (recsBytes rs ++ 0 :: pad) (pre.length + 4) (by omega) hfl hsmall
  have hcount := recs_count_le rs
  unfold readParameters
  rw [readPrologue_layout hdr s0 file pre (recsBytes rs ++ 0 :: pad) nb zp hpre hpa hsmall hnb hfile hfe]
  simp only
  rw [if_neg (by decide), tell_live _ hso.live, show u64ToI32 1 = 1 from rfl, Int.add_sub_cancel,
    readRecords_chain rs _ _ [] pad hv hso rfl (by simp only [adv_rest, List.length_append]; omega)]
  exact ⟨_, rfl, rfl, rfl, rfl⟩

theorem below_limits (n : Nat) (h : n ≤ 65536) : ¬ n > maxFrames ∧ ¬ n > maxPoints ∧ ¬ n > maxSubframes ∧ ¬ n > maxChannels := by
  unfold maxFrames maxPoints maxSubframes maxChannels; omega

theorem readData_layout (s2 : InStream) (file pre sec : Bytes) (frames : List Frame) (h : Header) (ph : PHeader) (gs : List Group)
    (pl al : List Bytes)
    (hfile : OnFile s2 file) (hfe : file = pre ++ sec ++ writeData frames)
    (hpre : pre.length = 512 * (h.paramAddr - 1) + h.zeros) (hpa : 1 ≤ h.paramAddr)
    (hsec : sec.length = 512 * ph.nbBlocks) (hnb : 1 ≤ ph.nbBlocks) (hsmall : file.length + 2 < two31)
    (hnf : h.nbFrames = frames.length) (hnfs : frames.length ≤ 65536)
    (hpl : (if h.nbPoints > 0 then strsOf gs POINT LABELS else .ok []) = .ok pl)
    (hal : (if h.nbAnalogs > 0 then strsOf gs ANALOG LABELS else .ok []) = .ok al)
    (hscale : h.scale < 0) (hnp : h.nbPoints < 65536) (habf : h.nbAnalogByFrame < 65536) (hna : h.nbAnalogs < 65536)
    (hshape : ∀ f ∈ frames, f.hasShape h.nbPoints h.nbAnalogByFrame h.nbAnalogs) :
    ∃ s', readData s2 h ph gs = .ok (frames.map (relabelFrame pl al), s') := by
  -- the loader seeks to the LAST byte of the parameter section and reads it
  obtain ⟨p2, x, rfl⟩ : ∃ p2 x, sec = p2 ++ [x] :=
    ⟨_, _, (List.dropLast_concat_getLast (List.ne_nil_of_length_pos (by omega))).symm⟩
  rw [hfe] at hsmall
  simp only [List.length_append, List.length_singleton] at hsec hsmall
  unfold readData
  rw [seekOff_pred h.paramAddr h.zeros (512 * ph.nbBlocks) (pre ++ p2).length hpa
    (by rw [List.length_append, Nat.add_assoc, hsec, hpre]) (by rw [List.length_append]; omega)]
  dsimp only
  rw [seekBeg_at s2 file (pre ++ p2) (x :: writeData frames) hfile (by rw [hfe]; simp only [List.append_assoc, List.singleton_append]),
    adv_readSByte _ x (writeData frames) _ rfl]
  rw [hnf, if_neg (below_limits _ hnfs).1, hpl, hal]
  simp only
  by_cases h0 : frames.length = 0
  · rw [if_pos h0, List.length_eq_zero_iff.mp h0]
    exact ⟨_, rfl⟩
  · rw [if_neg h0, if_neg (fun hn => hn hscale), if_neg (below_limits _ (Nat.le_of_lt hnp)).2.1,
      if_neg (below_limits _ (Nat.le_of_lt habf)).2.2.1, if_neg fun hc => (below_limits _ (Nat.le_of_lt hna)).2.2.2 hc.2,
      readData_written h.nbPoints h.nbAnalogByFrame h.nbAnalogs pl al frames _ [] hshape rfl (by simp)]
    exact ⟨_, rfl⟩

theorem layout_file {b : Bytes} (h : Header) (Z pa ds nb : Nat) (gap sec data : Bytes) (hk : HdrOK h) (hpa : 2 ≤ pa)
    (hgap : gap.length = 512 * (pa - 2)) (hsec : sec.length = 512 * nb)
    (hb : b = List.replicate Z 0 ++ h.bytesP pa ds [] ++ gap ++ sec ++ data) :
    b = List.replicate Z 0 ++ h.bytesP pa ds (gap ++ sec ++ data) ∧
    ∃ pre, pre.length = Z + 512 * (pa - 1) ∧ b = pre ++ (sec ++ data) ∧ b.drop (Z + 512 * (pa - 1 + nb)) = data := by
  subst hb
  have hpre : (List.replicate Z (0 : UInt8) ++ h.bytesP pa ds [] ++ gap).length = Z + 512 * (pa - 1) := by
    simp only [List.length_append, List.length_replicate, Header.bytesP_length h pa ds [] hk, hgap, List.length_nil]; omega
  refine ⟨?_, _, hpre, List.append_assoc .., ?_⟩
  · rw [Header.bytesP_split h pa ds (gap ++ sec ++ data)]; simp only [List.append_assoc]
  · exact List.drop_left' (by rw [List.length_append, hpre, hsec, Nat.mul_add, Nat.add_assoc])

theorem load_of_parts (F : FloatOps) (file : Bytes) (h : Header) (s1 s2 s3 : InStream) (ph : PHeader) (gs : List Group) (c1 : C3D)
    (frames : List Frame)
    (h1 : Header.read (InStream.open_ file) = .ok (h, s1)) (h2 : readParameters s1 h = .ok ((ph, gs), s2))
    (h3 : updateHeader F { hdr := h, ph := ph, groups := gs, frames := [] } = .ok c1)
    (h4 : readData s2 c1.hdr ph gs = .ok (frames, s3)) : C3D.load F file = .ok { c1 with frames := frames } := by
  unfold C3D.load
  rw [h1]; simp only
  rw [h2]; simp only
  rw [h3]; simp only
  rw [h4]

/-- C02. The file: `Z` zero bytes, the header record (parameter block `pa`, data start `ds`), the blocks up to the parameter
    section, its prologue (plain or zeroed), records in any order, terminator and padding up to `nb` blocks, then the frames. The
    loaded object holds the header fields, the groups the records describe (`applyRec` folded over them) and the frames, bit for bit. -/
theorem load_layout (F : FloatOps) (h : Header) (Z pa ds nb : Nat) (zp : Bool) (gap pad : Bytes) (rs : List Rec) (frames : List Frame)
    (pl al : List Bytes)
    (hk : HdrOK h) (hds : ds < 65536) (hpa : 2 ≤ pa) (hpa2 : pa < 256) (hnb1 : 1 ≤ nb) (hnb : nb < 256)
    (hgap : gap.length = 512 * (pa - 2)) (hv : ∀ r ∈ rs, r.Valid)
    (hseclen : 4 + (recsBytes rs).length + 1 + pad.length = 512 * nb)
    (hsmall : Z + 512 + gap.length + 512 * nb + (writeData frames).length + 2 < two31)
    (hstable : updateHeaderH F (rs.foldl applyRec []) [] (h.loadedAt Z pa ds) = .ok (h.loadedAt Z pa ds))
    (hnf : h.nbFrames = frames.length) (hnfs : frames.length ≤ 65536)
    (hpl : (if h.nbPoints > 0 then strsOf (rs.foldl applyRec []) POINT LABELS else .ok []) = .ok pl)
    (hal : (if h.nbAnalogs > 0 then strsOf (rs.foldl applyRec []) ANALOG LABELS else .ok []) = .ok al)
    (hscale : h.scale < 0) (hna : h.nbAnalogs < 65536)
    (hshape : ∀ f ∈ frames, f.hasShape h.nbPoints h.nbAnalogByFrame h.nbAnalogs) :
    C3D.load F (List.replicate Z 0 ++ h.bytesP pa ds [] ++ gap ++ ((if zp then 0 else low8N 1) :: (if zp then 0 else 0x50) :: low8N nb :: 84 ::
        (recsBytes rs ++ 0 :: pad)) ++ writeData frames)
      = .ok { hdr := h.loadedAt Z pa ds, ph := { start := 1, checksum := 0x50, nbBlocks := nb, processor := 84 },
              groups := rs.foldl applyRec [], frames := frames.map (relabelFrame pl al) } := by
  generalize hsec : ((if zp then (0 : UInt8) else low8N 1) :: (if zp then 0 else 0x50) :: low8N nb :: 84 :: (recsBytes rs ++ 0 :: pad)) = sec
  have hsecl : sec.length = 512 * nb := by rw [← hsec]; simp only [List.length_cons, List.length_append]; omega
  generalize hfile : List.replicate Z (0 : UInt8) ++ h.bytesP pa ds [] ++ gap ++ sec ++ writeData frames = file
  obtain ⟨hhead, pre, hpre, hfe, -⟩ := layout_file h Z pa ds nb gap sec (writeData frames) hk hpa hgap hsecl hfile.symm
  have hprel : pre.length = 512 * (pa - 1) + Z := hpre.trans (Nat.add_comm _ _)
  have hflen : file.length + 2 < two31 := by
    rw [hfe]; simp only [List.length_append, hpre, hsecl]; omega
  have h1 := Header_read_layout h Z pa ds (gap ++ sec ++ writeData frames) file (InStream.open_ file) hk hds (by omega) hpa2 ⟨rfl, rfl, rfl⟩ hhead
  obtain ⟨s2, hrp, hs2file⟩ := readParameters_layout (h.loadedAt Z pa ds) ((InStream.open_ file).adv _ _) file pre (pad ++ writeData frames) nb zp rs
    hprel (Nat.le_of_succ_le hpa) hnb hv ⟨rfl, rfl, rfl⟩ (by rw [hfe, ← hsec]; simp only [List.append_assoc, List.cons_append]) hflen
  let c0 : C3D := { hdr := h.loadedAt Z pa ds, ph := { start := 1, checksum := 0x50, nbBlocks := nb, processor := 84 }, groups := rs.foldl applyRec [], frames := [] }
  have h3 : updateHeader F c0 = .ok c0 := by
    unfold updateHeader
    rw [hstable]
    rfl
  obtain ⟨s3, hrd⟩ := readData_layout s2 file pre sec frames (h.loadedAt Z pa ds)
    { start := 1, checksum := 0x50, nbBlocks := nb, processor := 84 } (rs.foldl applyRec []) pl al
    hs2file (hfe.trans (List.append_assoc ..).symm) hprel (Nat.le_of_succ_le hpa) hsecl hnb1 hflen hnf hnfs hpl hal hscale hk.np hk.abf hna hshape
  exact load_of_parts F file _ _ s2 s3 _ _ _ _ h1 hrp h3 hrd

end Ezc3d
