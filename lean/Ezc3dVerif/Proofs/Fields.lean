import Ezc3dVerif.Model.Read
import Ezc3dVerif.Model.Write
import Ezc3dVerif.Properties.C12
import Ezc3dVerif.Proofs.Progress
/-
  What each typed read of the loader returns when the unread suffix starts with the bytes the corresponding writer
  produced, as rewrite rules on streams in `adv` form; the plumbing of the `SR` reader steps.

  Four predicates speak of a stream:
  `Fwd s s'` (Progress)  `s'` is a later state of `s`. For the loader on ARBITRARY bytes: termination and what survives a read.
  `Sync s`               makes the stream's own arithmetic (`remaining`, `tell`) a statement about `rest`.
  `OnFile s file`        live and on `file`, position unknown: all a seek needs, since it rebuilds the stream from the file (`seekBeg_at`).
  `StreamOK s`           what the chain of records needs: each record's end is computed from `tell`, narrowed to `int`, and
                         compared with the stop value 0.
-/
namespace Ezc3d
open C12

def InStream.adv (s : InStream) (b : Bytes) (k : Nat) : InStream := { s with rest := b, pos := s.pos + k }

@[simp] theorem adv_failed (s : InStream) (b k) : (s.adv b k).failed = s.failed := rfl
@[simp] theorem adv_rest (s : InStream) (b k) : (s.adv b k).rest = b := rfl
@[simp] theorem adv_pos (s : InStream) (b k) : (s.adv b k).pos = s.pos + k := rfl
@[simp] theorem adv_len (s : InStream) (b k) : (s.adv b k).len = s.len := rfl
@[simp] theorem adv_file (s : InStream) (b k) : (s.adv b k).file = s.file := rfl
@[simp] theorem adv_eof (s : InStream) (b k) : (s.adv b k).eof = s.eof := rfl
@[simp] theorem adv_adv (s : InStream) (b c k j) : (s.adv b k).adv c j = s.adv c (k + j) := by
  simp [InStream.adv, Nat.add_assoc]
theorem adv_zero (s : InStream) : s.adv s.rest 0 = s := by simp [InStream.adv]

/-- the typed reads (`adv_readFloat`, `adv_readUint2`, …) are stated in this form so that `simp only` walks a record with
    them as rewrite rules; a stream known by its unread bytes is in it at offset 0 (`adv_zero`) -/
theorem adv_read (s : InStream) (n : Nat) (a b : Bytes) (k : Nat) (hn : a.length = n) (hf : s.failed = false) :
    (s.adv (a ++ b) k).read n = (a, s.adv b (k + n)) := by
  subst hn
  rw [read_eq, adv_failed, hf, if_neg (by decide), adv_rest, if_pos (by simp), List.take_left, List.drop_left]
  simp [InStream.adv, Nat.add_assoc, hf]

def InStream.Sync (s : InStream) : Prop := s.len = s.pos + s.rest.length

theorem adv_sync (s : InStream) (a b : Bytes) (hs : s.Sync) (hr : s.rest = a ++ b) : (s.adv b a.length).Sync := by
  unfold InStream.Sync InStream.adv at *
  simp only
  rw [hs, hr, List.length_append]; omega

theorem remaining_of_sync (s : InStream) (hf : s.failed = false) (hs : s.Sync) : s.remaining = s.rest.length := by
  unfold InStream.remaining; unfold InStream.Sync at hs; simp [hf]; omega

theorem adv_remaining (s : InStream) (t : Bytes) (k : Nat) (hf : s.failed = false) :
    (s.adv t k).remaining = s.len - (s.pos + k) := by
  simp [InStream.remaining, hf]

theorem tell_live (s : InStream) (hf : s.failed = false) : s.tell = s.pos := by
  unfold InStream.tell; simp [hf]

theorem cstr_padded (s : Bytes) (k : Nat) (h : ∀ x ∈ s, x ≠ 0) : cstr (s ++ List.replicate k 0) = s := by
  rw [cstr, List.takeWhile_append_of_pos (fun x hx => bne_iff_ne.mpr (h x hx)), List.takeWhile_replicate]
  simp

theorem adv_readByte (s : InStream) (x : UInt8) (b : Bytes) (k : Nat) (hf : s.failed = false) :
    (s.adv (x :: b) k).readUint 1 = (x.toNat, s.adv b (k + 1)) := by
  unfold InStream.readUint
  rw [show (s.adv (x :: b) k).read 1 = _ from adv_read s 1 [x] b k rfl hf]
  simp only [hex2uint_1]

theorem adv_readUint1 (s : InStream) (n : Nat) (b : Bytes) (k : Nat) (hn : n < 256) (hf : s.failed = false) :
    (s.adv (low8N n :: b) k).readUint 1 = (n, s.adv b (k + 1)) := by
  rw [adv_readByte s _ b k hf, low8N_toNat n hn]

theorem adv_readUint2 (s : InStream) (n : Nat) (b : Bytes) (k : Nat) (hn : n < 65536) (hf : s.failed = false) :
    (s.adv (le16N n ++ b) k).readUint 2 = (n, s.adv b (k + 2)) := by
  unfold InStream.readUint
  rw [adv_read s 2 (le16N n) b k rfl hf]
  simp only [le16N_read n hn]

theorem adv_readSByte (s : InStream) (x : UInt8) (b : Bytes) (k : Nat) (hf : s.failed = false) :
    (s.adv (x :: b) k).readInt 1 = (hex2int [x], s.adv b (k + 1)) := by
  unfold InStream.readInt
  rw [show (s.adv (x :: b) k).read 1 = _ from adv_read s 1 [x] b k rfl hf]

theorem adv_readInt1 (s : InStream) (v : Int) (b : Bytes) (k : Nat) (h1 : -128 ≤ v) (h2 : v < 128) (hf : s.failed = false) :
    (s.adv (low8 v :: b) k).readInt 1 = (v, s.adv b (k + 1)) := by
  rw [adv_readSByte s _ b k hf, low8_read v h1 h2]

theorem adv_readInt2 (s : InStream) (v : Int) (b : Bytes) (k : Nat) (h1 : -32768 ≤ v) (h2 : v < 32768) (hf : s.failed = false) :
    (s.adv (le16 v ++ b) k).readInt 2 = (v, s.adv b (k + 2)) := by
  unfold InStream.readInt
  rw [adv_read s 2 (le16 v) b k rfl hf]
  simp only [le16_read v h1 h2]

theorem adv_readInt4 (s : InStream) (v : Int) (b : Bytes) (k : Nat) (h1 : -2147483648 ≤ v) (h2 : v < 2147483648)
    (hf : s.failed = false) : (s.adv (le32 v ++ b) k).readInt 4 = (v, s.adv b (k + 4)) := by
  unfold InStream.readInt
  rw [adv_read s 4 (le32 v) b k rfl hf]
  simp only [le32_read v h1 h2]

theorem adv_readZeros (s : InStream) (n : Nat) (b : Bytes) (k : Nat) (hf : s.failed = false) :
    (s.adv (List.replicate n 0 ++ b) k).readInt n = (0, s.adv b (k + n)) := by
  unfold InStream.readInt
  rw [adv_read s n (List.replicate n 0) b k (List.length_replicate ..) hf]
  simp only [hex2int_zeros]

theorem adv_readFloat (s : InStream) (v : UInt32) (b : Bytes) (k : Nat) (hf : s.failed = false) :
    (s.adv (f32le v ++ b) k).readFloat = (v, s.adv b (k + 4)) := by
  unfold InStream.readFloat
  rw [adv_read s 4 (f32le v) b k rfl hf]
  simp only [C12.f32_roundtrip]

theorem adv_readCStr (s : InStream) (n : Nat) (a b : Bytes) (k : Nat) (hn : a.length = n) (hf : s.failed = false) :
    (s.adv (a ++ b) k).readString n = (cstr a, s.adv b (k + n)) := by
  unfold InStream.readString
  rw [adv_read s n a b k hn hf]

theorem adv_readString (s : InStream) (n : Nat) (a b : Bytes) (k : Nat) (hn : a.length = n) (hz : ∀ x ∈ a, x ≠ 0)
    (hf : s.failed = false) : (s.adv (a ++ b) k).readString n = (a, s.adv b (k + n)) := by
  rw [adv_readCStr s n a b k hn hf, show cstr a = a by simpa using cstr_padded a 0 hz]

theorem readString_adv (s : InStream) (a b : Bytes) (hz : ∀ x ∈ a, x ≠ 0) (hf : s.failed = false)
    (hr : s.rest = a ++ b) : s.readString a.length = (a, s.adv b a.length) := by
  have := adv_readString s a.length a b 0 rfl hz hf
  rwa [← hr, adv_zero, Nat.zero_add] at this

theorem readString_adv' (s : InStream) (n : Nat) (a b : Bytes) (hn : a.length = n) (hz : ∀ x ∈ a, x ≠ 0)
    (hf : s.failed = false) (hr : s.rest = a ++ b) : s.readString n = (a, s.adv b n) := by
  subst hn; exact readString_adv s a b hz hf hr

theorem adv_readMany {α β} (f : InStream → β × InStream) (enc : α → Bytes) (g : α → β) (w : Nat) (l : List α) (n : Nat)
    (s : InStream) (hl : l.length = n)
    (hf : ∀ a ∈ l, ∀ (b : Bytes) (k : Nat), f (s.adv (enc a ++ b) k) = (g a, s.adv b (k + w))) (b : Bytes) (k : Nat) :
    readMany f n (s.adv ((l.map enc).flatten ++ b) k) = (l.map g, s.adv b (k + w * n)) := by
  subst hl
  induction l generalizing k with
  | nil => rfl
  | cons a t ih =>
    rw [List.map_cons, List.flatten_cons, List.append_assoc, List.length_cons, readMany, hf a (List.mem_cons_self ..)]
    simp only
    rw [ih (fun x hx => hf x (List.mem_cons_of_mem _ hx)), Nat.mul_succ, Nat.add_right_comm k w, Nat.add_assoc k]
    rfl

theorem adv_readMany_uint1 (s : InStream) (l : List Nat) (n : Nat) (hl : l.length = n) (hd : ∀ d ∈ l, d < 256)
    (hf : s.failed = false) (b : Bytes) (k : Nat) :
    readMany (fun s => s.readUint 1) n (s.adv (l.map low8N ++ b) k) = (l, s.adv b (k + n)) := by
  have := adv_readMany (fun s => s.readUint 1) (fun d => [low8N d]) id 1 l n s hl (fun d h b k => adv_readUint1 s d b k (hd d h) hf) b k
  rwa [List.map_id, Nat.one_mul, ← List.flatMap_def, ← List.map_eq_flatMap] at this

theorem adv_readMany_int1 (s : InStream) (l : List Int) (n : Nat) (hl : l.length = n)
    (hd : ∀ v ∈ l, -128 ≤ v ∧ v < 128) (hf : s.failed = false) (b : Bytes) (k : Nat) :
    readMany (fun s => s.readInt 1) n (s.adv (l.map low8 ++ b) k) = (l, s.adv b (k + n)) := by
  have := adv_readMany (fun s => s.readInt 1) (fun v => [low8 v]) id 1 l n s hl (fun v h b k => adv_readInt1 s v b k (hd v h).1 (hd v h).2 hf) b k
  rwa [List.map_id, Nat.one_mul, ← List.flatMap_def, ← List.map_eq_flatMap] at this

theorem adv_readMany_uint2 (s : InStream) (l : List Nat) (n : Nat) (hl : l.length = n) (hd : ∀ d ∈ l, d < 65536)
    (hf : s.failed = false) (b : Bytes) (k : Nat) :
    readMany (fun s => s.readUint 2) n (s.adv ((l.map le16N).flatten ++ b) k) = (l, s.adv b (k + 2 * n)) := by
  rw [adv_readMany _ le16N id 2 l n s hl fun d h b k => adv_readUint2 s d b k (hd d h) hf, List.map_id]

theorem adv_readMany_int2 (s : InStream) (l : List Int) (n : Nat) (hl : l.length = n)
    (hd : ∀ v ∈ l, -32768 ≤ v ∧ v < 32768) (hf : s.failed = false) (b : Bytes) (k : Nat) :
    readMany (fun s => s.readInt 2) n (s.adv ((l.map le16).flatten ++ b) k) = (l, s.adv b (k + 2 * n)) := by
  rw [adv_readMany _ le16 id 2 l n s hl fun v h b k => adv_readInt2 s v b k (hd v h).1 (hd v h).2 hf, List.map_id]

theorem adv_readMany_float (s : InStream) (l : List UInt32) (n : Nat) (hl : l.length = n) (hf : s.failed = false)
    (b : Bytes) (k : Nat) :
    readMany InStream.readFloat n (s.adv ((l.map f32le).flatten ++ b) k) = (l, s.adv b (k + 4 * n)) := by
  rw [adv_readMany _ f32le id 4 l n s hl fun v _ b k => adv_readFloat s v b k hf, List.map_id]

@[simp] theorem SR.bind_lift {α β} (r : InStream → α × InStream) (f : α → SR β) (s : InStream) :
    SR.bind (SR.lift r) f s = f (r s).1 (r s).2 := rfl
@[simp] theorem SR.bind_pure {α β} (a : α) (f : α → SR β) (s : InStream) : SR.bind (SR.pure a) f s = f a s := rfl
@[simp] theorem SR.bind_get {β} (f : InStream → SR β) (s : InStream) : SR.bind SR.get f s = f s s := rfl
@[simp] theorem SR.pure_apply {α} (a : α) (s : InStream) : SR.pure a s = .ok (a, s) := rfl
@[simp] theorem SR.lift_apply {α} (r : InStream → α × InStream) (s : InStream) : SR.lift r s = .ok (r s) := rfl

theorem SR.bind_of_ok {α β} (m : SR α) (f : α → SR β) (s s' : InStream) (a : α) (h : m s = .ok (a, s')) :
    SR.bind m f s = f a s' := by unfold SR.bind; rw [h]

structure OnFile (s : InStream) (file : Bytes) : Prop where
  live : s.failed = false
  file_eq : s.file = file
  len_eq : s.len = file.length

/-- the streams of a load are tracked in one form, `(open_ file).adv rest k`: every seek lands on it -/
theorem seekBeg_at (s : InStream) (file pre rest : Bytes) (h : OnFile s file) (hfe : file = pre ++ rest) :
    s.seekBeg (pre.length : Int) = (InStream.open_ file).adv rest pre.length := by
  obtain ⟨hf, hfile, hlen⟩ := h
  unfold InStream.seekBeg
  rw [if_neg (by simp [hf]), if_neg (by omega), hfile]
  simp [InStream.adv, InStream.open_, hf, hlen, hfe]

/-- `0 < pos`: `readRecords` is handed the position of the next record and takes 0 for "stop", so a record at position 0
    would not be read. `len + 2 < 2^31`: `nextPos` computes that position as `tell + offset - 2` and narrows it to `int`. -/
structure StreamOK (s : InStream) : Prop where
  live : s.failed = false
  sync : s.Sync
  small : s.len + 2 < two31
  pos : 0 < s.pos

theorem StreamOK.adv {s : InStream} (h : StreamOK s) (a b : Bytes) (hr : s.rest = a ++ b) : StreamOK (s.adv b a.length) :=
  ⟨h.live, adv_sync s a b h.sync hr, h.small, Nat.lt_of_lt_of_le h.pos (Nat.le_add_right _ _)⟩

theorem streamOK_at (file rest : Bytes) (k : Nat) (hk : 0 < k) (hlen : file.length = k + rest.length)
    (hsmall : file.length + 2 < two31) : StreamOK ((InStream.open_ file).adv rest k) :=
  ⟨rfl, by show file.length = 0 + k + rest.length; omega, hsmall, by show 0 < 0 + k; omega⟩

end Ezc3d
