import Ezc3dVerif.Proofs.NoUB
/-
  Every public call starts with a prefix that only reads: look-ups and guards, each of which can only throw and leave the
  object as it was. Past the prefix a data mutator stores frames and hands over to `updateParameters`, `parameter` hands
  over to `updateHeader`, a lock toggle is done. `Guarded s K o` says this of an outcome `o`: a throw that leaves `s`, or one of
  the continuations `K`. Each operation is walked once into this form (`Mutates` is the instance for the data mutators, `HandsOver`
  the three continuations of `step`); what holds of a call whatever its arguments is read off it. `Guarded` does not keep which
  guards were passed: the exact conditions under which `C3D.frame` succeeds are `C07.frame_ok_iff`.
-/
namespace Ezc3d
open N

def Guarded {σ} (s : σ) (K : Outcome σ → Prop) (o : Outcome σ) : Prop := (∃ e, o = .throw e s) ∨ K o

namespace Guarded
variable {σ : Type} {s : σ} {K : Outcome σ → Prop}

theorem refused (e : Exc) : Guarded s K (.throw e s) := .inl ⟨e, rfl⟩

theorem done {o : Outcome σ} (h : K o) : Guarded s K o := .inr h

theorem mono {K' : Outcome σ → Prop} {o : Outcome σ} (h : Guarded s K o) (hK : ∀ o, K o → K' o) : Guarded s K' o :=
  h.imp_right (hK o)

theorem andThen {α} {r : Res α} {k : α → Outcome σ} (hr : r.NoUB) (hk : ∀ a, r = .ok a → Guarded s K (k a)) :
    Guarded s K (r.andThen s k) := by
  cases r with
  | ok a => exact hk a rfl
  | throw e => exact refused e
  | ub u => exact absurd rfl (hr u)

theorem elim {P : Outcome σ → Prop} {o : Outcome σ} (h : Guarded s K o) (ht : ∀ e, P (.throw e s)) (hK : ∀ o, K o → P o) : P o := by
  rcases h with ⟨e, rfl⟩ | h
  · exact ht e
  · exact hK o h

theorem of_ok {o : Outcome σ} {s' : σ} (h : Guarded s K o) (ho : o = .ok s') : K o := by
  rcases h with ⟨e, rfl⟩ | h
  · cases ho
  · exact h

theorem unchanged {o : Outcome σ} {e : Exc} {l : σ} (h : Guarded s K o) (hK : ∀ o, K o → ∃ x, o = .ok x) (ho : o = .throw e l) :
    l = s := by
  rcases h with ⟨e', rfl⟩ | h
  · cases ho; rfl
  · obtain ⟨x, rfl⟩ := hK o h; cases ho

end Guarded

/-- a data mutator: past its guards it stores frames `fr` and passes the names `np`, `na` it declares to `updateParameters`;
    `Q` says which -/
abbrev Mutates (F : FloatOps) (s : C3D) (Q : List Frame → List Bytes → List Bytes → Prop) : Outcome C3D → Prop :=
  Guarded s fun o => ∃ fr np na, Q fr np na ∧ o = updateParameters F { s with frames := fr } np na

theorem Mutates.stored {F : FloatOps} {s : C3D} {Q : List Frame → List Bytes → List Bytes → Prop} {fr : List Frame} {np na : List Bytes}
    (h : Q fr np na) : Mutates F s Q (updateParameters F { s with frames := fr } np na) :=
  .done ⟨fr, np, na, h, rfl⟩

theorem frame_mutates (F : FloatOps) (s : C3D) (f : Frame) (idx : Nat) :
    Mutates F s (fun fr np na => dataFrame s.frames f idx = .ok fr ∧ np = [] ∧ na = []) (s.frame F f idx) := by
  unfold C3D.frame
  refine .andThen (int0_noUB _ _ _) fun used _ => ?_
  refine iteInduction (fun _ => .refused _) fun _ => ?_
  refine .andThen (strsOf_noUB _ _ _) fun labels _ => ?_
  refine iteInduction (fun _ => .refused _) fun _ => ?_
  refine .andThen (Res.noUB_ite _ (Res.noUB_map (float0_noUB _ _ _)) (Res.noUB_ok _)) fun pz _ => ?_
  refine iteInduction (fun _ => .refused _) fun _ => ?_
  refine .andThen (Res.noUB_ite _ (Res.noUB_map (float0_noUB _ _ _)) (Res.noUB_ok _)) fun az _ => ?_
  refine iteInduction (fun _ => .refused _) fun _ => ?_
  refine .andThen (int0_noUB _ _ _) fun aused _ => ?_
  refine iteInduction (fun _ => .refused _) fun _ => ?_
  refine iteInduction (fun _ => .refused _) fun _ => ?_
  refine .andThen (dataFrame_noUB _ _ _) fun fr hfr => ?_
  exact Mutates.stored ⟨hfr, rfl, rfl⟩

/-- the frames `c3d::point(frames)` stores -/
def pointColsStored (s : C3D) (frames : List Frame) (fr : List Frame) : Prop :=
  ∃ f0 rest, frames = f0 :: rest ∧ frames.length = s.frames.length ∧ f0.pts.length ≠ 0 ∧
    fr = List.zipWith (fun st fr => { st with pts := st.pts ++ fr.pts.take f0.pts.length }) s.frames frames

theorem pointCols_mutates (F : FloatOps) (s : C3D) (frames : List Frame) :
    Mutates F s (fun fr np na => pointColsStored s frames fr ∧ np = [] ∧ na = []) (s.pointCols F frames) := by
  unfold C3D.pointCols
  refine iteInduction (fun _ => .refused _) fun hlen => ?_
  split
  · exact .refused _
  · refine iteInduction (fun _ => .refused _) fun h0 => ?_
    refine .andThen (strsOf_noUB _ _ _) fun labels _ => ?_
    split
    · exact .refused _
    · exact Mutates.stored ⟨⟨_, _, rfl, Decidable.not_not.mp (not_or.mp hlen).2, h0, rfl⟩, rfl, rfl⟩

/-- the frames `c3d::analog(frames)` stores -/
def analogColsStored (s : C3D) (frames : List Frame) (fr : List Frame) : Prop :=
  ∃ f0 rest sf0 srest, frames = f0 :: rest ∧ frames.length = s.frames.length ∧ f0.subs = sf0 :: srest ∧
    f0.subs.length = s.hdr.nbAnalogByFrame ∧ sf0.length ≠ 0 ∧
    fr = List.zipWith (fun st fr => { st with subs := (List.zipWith (fun ssf fsf => ssf ++ fsf.take sf0.length)
        (st.subs.take s.hdr.nbAnalogByFrame) (fr.subs.take s.hdr.nbAnalogByFrame) ++ st.subs.drop s.hdr.nbAnalogByFrame) }) s.frames frames

theorem analogCols_mutates (F : FloatOps) (s : C3D) (frames : List Frame) :
    Mutates F s (fun fr np na => analogColsStored s frames fr ∧ np = [] ∧ na = []) (s.analogCols F frames) := by
  unfold C3D.analogCols
  refine iteInduction (fun _ => .refused _) fun hlen => ?_
  split
  · exact .refused _
  · refine iteInduction (fun _ => .refused _) fun hn => ?_
    split
    · exact .refused _
    next sf0 srest hsubs =>
      refine iteInduction (fun _ => .refused _) fun h0 => ?_
      refine .andThen (strsOf_noUB _ _ _) fun labels _ => ?_
      dsimp only
      split
      · exact .refused _
      · exact Mutates.stored ⟨⟨_, _, sf0, srest, rfl, Decidable.not_not.mp (not_or.mp hlen).2, hsubs, Decidable.not_not.mp hn, h0, rfl⟩, rfl, rfl⟩

theorem parameter_guarded (F : FloatOps) (s : C3D) (g : Bytes) (p : Param) :
    Guarded s (fun o => ∃ gs', insertParam s.groups g p = .ok gs' ∧ o = updateHeader F { s with groups := gs' }) (s.parameter F g p) :=
  iteInduction (fun _ => .refused _) fun _ => iteInduction (fun _ => .refused _) fun _ =>
    .andThen (insertParam_noUB _ _ _) fun gs' h => .done ⟨gs', h, rfl⟩

theorem setGroupLock_guarded (s : C3D) (g : Bytes) (v : Bool) :
    Guarded s (fun o => ∃ gi, groupIdx s.groups g = .ok gi ∧
      o = .ok { s with groups := s.groups.modify gi fun x => { x with locked := v } }) (s.setGroupLock g v) :=
  .andThen (groupIdx_noUB _ _) fun gi h => .done ⟨gi, h, rfl⟩

/-- what a data mutator passes to `updateParameters` besides the frames: no name, or the name of the point or channel that `op`
    declares, as `Point::name` / `Channel::name` store it (trailing spaces trimmed); a name only on an object without frames,
    which is the guard of `updateParameters` -/
structure Declares (op : Op) (fr : List Frame) (np na : List Bytes) : Prop where
  point : np = [] ∨ ∃ n, op = .point n ∧ np = [rtrim n]
  analog : na = [] ∨ ∃ n, op = .analog n ∧ na = [rtrim n]
  noFrames : np ≠ [] ∨ na ≠ [] → fr = []

theorem Mutates.declares_none {F : FloatOps} {s : C3D} {Q : List Frame → Prop} {o : Outcome C3D}
    (h : Mutates F s (fun fr np na => Q fr ∧ np = [] ∧ na = []) o) (op : Op) : Mutates F s (Declares op) o :=
  h.mono fun _ ⟨fr, np, na, hq, e⟩ => ⟨fr, np, na, ⟨.inl hq.2.1, .inl hq.2.2, fun hne => hne.elim (absurd hq.2.1) (absurd hq.2.2)⟩, e⟩

/-- the three ways a public call ends past its guards: `parameter` has edited the tree and runs `updateHeader`, a lock toggle is
    done, a data mutator has stored its frames and runs `updateParameters` -/
inductive HandsOver (F : FloatOps) (s : C3D) (op : Op) (o : Outcome C3D) : Prop
  | parameter (g : Bytes) (p : Param) (gs' : List Group) (hop : op = .parameter g p) (hins : insertParam s.groups g p = .ok gs')
      (ho : o = updateHeader F { s with groups := gs' })
  | lock (g : Bytes) (v : Bool) (gi : Nat) (hop : op = .lockGroup g ∧ v = true ∨ op = .unlockGroup g ∧ v = false)
      (hgi : groupIdx s.groups g = .ok gi) (ho : o = .ok { s with groups := s.groups.modify gi fun x => { x with locked := v } })
  | data (fr : List Frame) (np na : List Bytes) (hd : Declares op fr np na) (ho : o = updateParameters F { s with frames := fr } np na)

theorem step_guarded (F : FloatOps) (s : C3D) (op : Op) : Guarded s (HandsOver F s op) (step F s op) := by
  have data {o : Outcome C3D} (h : Mutates F s (Declares op) o) : Guarded s (HandsOver F s op) o :=
    h.mono fun _ ⟨fr, np, na, hd, e⟩ => .data fr np na hd e
  cases op with
  | parameter g p => exact (parameter_guarded F s g p).mono fun _ ⟨gs', h, e⟩ => .parameter g p gs' rfl h e
  | lockGroup g => exact (setGroupLock_guarded s g true).mono fun _ ⟨gi, h, e⟩ => .lock g true gi (.inl ⟨rfl, rfl⟩) h e
  | unlockGroup g => exact (setGroupLock_guarded s g false).mono fun _ ⟨gi, h, e⟩ => .lock g false gi (.inr ⟨rfl, rfl⟩) h e
  | frame f idx => exact data ((frame_mutates F s f idx).declares_none _)
  | pointCols fs => exact data ((pointCols_mutates F s fs).declares_none _)
  | analogCols fs => exact data ((analogCols_mutates F s fs).declares_none _)
  | point n =>
    refine data ?_
    show Mutates F s _ (s.point F n)
    unfold C3D.point
    split
    · exact (pointCols_mutates F s _).declares_none _
    · exact Mutates.stored (fr := s.frames) ⟨.inr ⟨n, rfl, rfl⟩, .inl rfl, fun _ => List.eq_nil_of_length_eq_zero (by omega)⟩
  | analog n =>
    refine data ?_
    show Mutates F s _ (s.analog F n)
    unfold C3D.analog
    split
    · exact (analogCols_mutates F s _).declares_none _
    · exact Mutates.stored (fr := s.frames) ⟨.inl rfl, .inr ⟨n, rfl, rfl⟩, fun _ => List.eq_nil_of_length_eq_zero (by omega)⟩

end Ezc3d
