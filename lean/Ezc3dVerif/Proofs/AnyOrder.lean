import Ezc3dVerif.Proofs.RecordsRT
import Ezc3dVerif.Proofs.ByName
/-
  The record chain in ANY order: group records and parameter records interleaved arbitrarily, group ids
  with gaps, a parameter before its group's record, two parameters of one group with the same name.
  What the loader builds is a fold of `applyRec` over the records. The writer's order (`recsOf`) is one such
  sequence, on which the fold is `readBack`.
-/
namespace Ezc3d
open C12 N

/-- a record of the parameter section: the header of group `i+1`, or a parameter of group `i+1` -/
inductive Rec where
  | group (i : Nat) (g : Group)
  | param (i : Nat) (p : Param)

def Rec.bytes : Rec → Bytes
  | .group i g => low8 g.nameLen :: low8 (-((i : Int) + 1)) :: g.recTail []
  | .param i p => p.recBytes ((i : Int) + 1)

def recsBytes (rs : List Rec) : Bytes := (rs.map Rec.bytes).flatten

/-- `i + 1 ≤ 127`: the id byte is signed, `i + 1` on a parameter record and `-(i + 1)` on a group record -/
def Rec.Valid : Rec → Prop
  | .group i g => i + 1 ≤ 127 ∧ GroupOK g
  | .param i p => i + 1 ≤ 127 ∧ RecOK p

/-- One iteration of `readRecords` on the table. `ensureGroups` makes the placeholders up to the record's id. A group record sets name
    and lock, and the description only if it is not empty (`Group::read` assigns it when the length byte is not 0); a parameter
    record goes through `Group::parameter(const Parameter&)`, replace by name or append (`putParam`). -/
def applyRec (gs : List Group) : Rec → List Group
  | .group i g =>
    let gs1 := ensureGroups gs (i + 1)
    gs1.modify i fun old => { old with name := toUpper g.name, locked := g.locked, desc := if g.desc = [] then old.desc else g.desc }
  | .param i p =>
    let gs1 := ensureGroups gs (i + 1)
    gs1.modify i fun old => old.putParam p.norm

theorem ensureGroups_ge (gs : List Group) (n : Nat) (h : n ≤ gs.length) : ensureGroups gs n = gs := by
  rw [ensureGroups, Nat.sub_eq_zero_of_le h, List.replicate_zero, List.append_nil]

theorem ensureGroups_lt (gs : List Group) (i : Nat) (h : gs.length ≤ i) :
    ensureGroups gs (i + 1) = ensureGroups gs i ++ [({} : Group)] := by
  rw [ensureGroups, ensureGroups, Nat.succ_sub h, List.replicate_succ', List.append_assoc]

theorem length_ensureGroups (gs : List Group) (n : Nat) : (ensureGroups gs n).length = max gs.length n := by
  rw [ensureGroups, List.length_append, List.length_replicate]; omega

theorem le_length_ensureGroups (gs : List Group) (n : Nat) : n ≤ (ensureGroups gs n).length :=
  length_ensureGroups gs n ▸ Nat.le_max_right ..

theorem ensureGroups_get (gs : List Group) (i : Nat) : ∃ g, (ensureGroups gs (i + 1))[i]? = some g :=
  ⟨_, List.getElem?_eq_getElem (le_length_ensureGroups gs (i + 1))⟩

theorem set_eq_modify {α} (l : List α) (i : Nat) (a : α) (f : α → α) (h : l[i]? = some a) : l.set i (f a) = l.modify i f := by
  obtain ⟨hl, rfl⟩ := List.getElem?_eq_some_iff.mp h
  rw [List.modify_eq_take_cons_drop hl, List.set_eq_take_append_cons_drop, if_pos hl]

theorem Rec.bytes_length_pos (r : Rec) : 1 ≤ r.bytes.length := by
  cases r <;> simp [Rec.bytes, Param.recBytes]

theorem recs_count_le (rs : List Rec) : rs.length ≤ (recsBytes rs).length := by
  unfold recsBytes
  induction rs with
  | nil => simp
  | cons r t ih =>
    simp only [List.map_cons, List.flatten_cons, List.length_append, List.length_cons]
    have := Rec.bytes_length_pos r
    omega

theorem readRecords_rec_step (fuel : Nat) (s : InStream) (gs : List Group) (r : Rec) (b : Bytes)
    (hv : r.Valid) (hso : StreamOK s) (hr : s.rest = r.bytes ++ b) :
    readRecords (fuel + 1) s (s.pos : Int) gs
      = readRecords fuel (s.adv b r.bytes.length) ((s.pos + r.bytes.length : Nat) : Int) (applyRec gs r) := by
  have hpos := hso.pos
  rw [readRecords, if_neg (by omega), tell_live s hso.live, if_neg (by simp)]
  -- Both kinds of record go the same way. Behind the two head bytes the stream is still `StreamOK` (`hso2`), so the lemma for the
  -- rest of the record applies to it. `ensureGroups` has made slot `i` exist (`hg0`), so the loader's `set` there is the `modify`
  -- of `applyRec`.
  cases r with
  | group i g =>
    obtain ⟨hi, hg⟩ := hv
    obtain ⟨hn1, hn2, hn0⟩ : -128 ≤ g.nameLen ∧ g.nameLen < 128 ∧ g.nameLen ≠ 0 := signedLen_range g.locked g.name.length hg.name_pos hg.name_len
    have hr' : s.rest = low8 g.nameLen :: low8 (-((i : Int) + 1)) :: g.recTail b := by
      rw [hr, ← Group.recTail_append]; rfl
    have hso2 : StreamOK (s.adv (g.recTail b) (1 + 1)) := hso.adv [_, _] _ hr'
    obtain ⟨g0, hg0⟩ := ensureGroups_get gs i
    conv => lhs; rw [← adv_zero s, hr']
    rw [adv_readInt1 s g.nameLen _ 0 hn1 hn2 hso.live]
    simp only
    rw [if_neg hn0, adv_readInt1 s (-((i : Int) + 1)) (g.recTail b) _ (by omega) (by omega) hso.live,
      Int.natAbs_neg, idByte_natAbs, if_pos (by omega), Nat.add_sub_cancel, hg0]
    simp only
    rw [Group_read_onto g0 g hg _ b hso2.live hso2.sync hso2.small rfl]
    simp only [adv_adv, adv_pos, Rec.bytes, List.length_cons, Group.recTail_length, List.length_nil, Nat.add_zero]
    simp only [applyRec]
    rw [← set_eq_modify _ i g0 _ hg0]
    congr 2 <;> omega
  | param i p =>
    obtain ⟨hi, hp⟩ := hv
    obtain ⟨hn1, hn2, hn0⟩ : -128 ≤ p.nameLen ∧ p.nameLen < 128 ∧ p.nameLen ≠ 0 := signedLen_range p.locked p.name.length hp.name_pos hp.name_len
    have hr' : s.rest = low8 p.nameLen :: low8 ((i : Int) + 1) :: p.recTail b := by
      rw [hr, ← Param.recTail_append]; rfl
    have hso2 : StreamOK (s.adv (p.recTail b) (1 + 1)) := hso.adv [_, _] _ hr'
    obtain ⟨g0, hg0⟩ := ensureGroups_get gs i
    conv => lhs; rw [← adv_zero s, hr']
    rw [adv_readInt1 s p.nameLen _ 0 hn1 hn2 hso.live]
    simp only
    rw [if_neg hn0, adv_readInt1 s ((i : Int) + 1) (p.recTail b) _ (by omega) (by omega) hso.live,
      idByte_natAbs, if_neg (by omega), if_neg (by omega), Nat.add_sub_cancel, hg0,
      Param_read_written p hp _ b hso2.live hso2.sync hso2.small rfl]
    simp only
    rw [addParam_eq, if_neg (show p.norm.type ≠ .none from type_ne_none p hp.values)]
    simp only [adv_adv, adv_pos, Rec.bytes, Param.recBytes_length]
    simp only [applyRec]
    rw [← set_eq_modify _ i g0 _ hg0]
    congr 2 <;> omega

theorem readRecords_any (rs : List Rec) : ∀ (fuel : Nat) (s : InStream) (gs : List Group) (b : Bytes),
    (∀ r ∈ rs, r.Valid) → StreamOK s → s.rest = recsBytes rs ++ b →
    readRecords (fuel + rs.length) s (s.pos : Int) gs
      = readRecords fuel (s.adv b (recsBytes rs).length) ((s.pos + (recsBytes rs).length : Nat) : Int) (rs.foldl applyRec gs) := by
  induction rs with
  | nil =>
    intro fuel s gs b _ _ hr
    simp only [recsBytes, List.map_nil, List.flatten_nil, List.nil_append, List.length_nil, Nat.add_zero, List.foldl_nil] at hr ⊢
    rw [← hr, adv_zero]
  | cons r t ih =>
    intro fuel s gs b hv hso hr
    simp only [recsBytes, List.map_cons, List.flatten_cons, List.append_assoc] at hr
    have e : fuel + (r :: t).length = (fuel + t.length) + 1 := by simp; omega
    rw [e, readRecords_rec_step (fuel + t.length) s gs r _ (hv r (by simp)) hso hr]
    have hso' := hso.adv r.bytes ((t.map Rec.bytes).flatten ++ b) hr
    have hpos' : ((s.pos + r.bytes.length : Nat) : Int) = ((s.adv ((t.map Rec.bytes).flatten ++ b) r.bytes.length).pos : Int) := by simp
    rw [hpos', ih fuel _ (applyRec gs r) b (fun x hx => hv x (by simp [hx])) hso' rfl]
    simp only [adv_adv, adv_pos, List.foldl_cons, recsBytes, List.map_cons, List.flatten_cons, List.length_append]
    congr 2 <;> omega

theorem readRecords_chain (rs : List Rec) (fuel : Nat) (s : InStream) (gs : List Group) (pad : Bytes) (hv : ∀ r ∈ rs, r.Valid)
    (hso : StreamOK s) (hr : s.rest = recsBytes rs ++ 0 :: pad) (hfuel : rs.length < fuel) :
    readRecords fuel s (s.pos : Int) gs = .ok (rs.foldl applyRec gs, s.adv pad ((recsBytes rs).length + 1)) := by
  obtain ⟨f, rfl⟩ : ∃ f, fuel = (f + 1) + rs.length := ⟨fuel - rs.length - 1, by omega⟩
  rw [readRecords_any rs _ s gs (0 :: pad) hv hso hr, ← adv_pos s (0 :: pad),
    readRecords_terminator f _ _ pad (hso.adv _ _ hr) rfl, adv_adv]

/-- the records `writeGroupList` emits for `gs` when the first of them has id `i + 1` -/
def recsOf : List Group → Nat → List Rec
  | [], _ => []
  | g :: rest, i => (if g.name = [] then [] else .group i g :: g.params.map (.param i)) ++ recsOf rest (i + 1)

theorem recsBytes_append (a b : List Rec) : recsBytes (a ++ b) = recsBytes a ++ recsBytes b := by
  simp [recsBytes]

theorem recsBytes_params (i : Nat) (ps : List Param) : recsBytes (ps.map (.param i)) = paramsBytes ((i : Int) + 1) ps := by
  simp [recsBytes, paramsBytes, Rec.bytes, Function.comp_def]

theorem recsBytes_recsOf (gs : List Group) : ∀ i, recsBytes (recsOf gs i) = groupsBytes gs i := by
  induction gs with
  | nil => intro i; rfl
  | cons g rest ih =>
    intro i
    rw [recsOf, groupsBytes, recsBytes_append, ih]
    split
    · rfl
    · rw [show Rec.group i g :: g.params.map (.param i) = [Rec.group i g] ++ g.params.map (.param i) from rfl, recsBytes_append,
        recsBytes_params]
      simp [recsBytes, Rec.bytes, groupBytes]

theorem recsOf_length (gs : List Group) : ∀ i, (recsOf gs i).length = recCount gs := by
  induction gs with
  | nil => intro i; rfl
  | cons g rest ih => intro i; rw [recsOf, recCount, List.length_append, ih]; split <;> simp <;> omega

theorem valid_recsOf (gs : List Group) : ∀ i, i + gs.length ≤ 127 → (∀ g ∈ gs, g.name ≠ [] → GroupRecsOK g) →
    ∀ r ∈ recsOf gs i, r.Valid := by
  induction gs with
  | nil => intro i _ _ r hr; cases hr
  | cons g rest ih =>
    intro i hi hok r hr
    simp only [List.length_cons] at hi
    rw [recsOf, List.mem_append] at hr
    rcases hr with hr | hr
    · split at hr
      · cases hr
      · next hn =>
        have hg := hok g (by simp) hn
        rcases List.mem_cons.mp hr with rfl | hr
        · exact ⟨by omega, hg.head⟩
        · obtain ⟨p, hp, rfl⟩ := List.mem_map.mp hr
          exact ⟨by omega, hg.params p hp⟩
    · exact ih (i + 1) (by omega) (fun x hx => hok x (by simp [hx])) r hr

theorem modify_last {α} (l : List α) (a : α) (f : α → α) (i : Nat) (hl : l.length = i) : (l ++ [a]).modify i f = l ++ [f a] := by
  subst hl
  exact modify_append_length l a [] f

theorem applyRec_group_new (acc : List Group) (i : Nat) (g : Group) (h : acc.length ≤ i) :
    applyRec acc (.group i g) = ensureGroups acc i ++ [g.head] := by
  unfold applyRec
  simp only
  rw [ensureGroups_lt acc i h, modify_last _ _ _ i ((length_ensureGroups acc i).trans (Nat.max_eq_right h))]
  simp [Group.head]

theorem applyRec_param_lt (gs : List Group) (i : Nat) (p : Param) (h : i < gs.length) :
    applyRec gs (.param i p) = gs.modify i fun g => g.putParam p.norm := by
  unfold applyRec
  simp only
  rw [ensureGroups_ge gs (i + 1) h]

theorem putParam_fresh (g : Group) (q : Param) (h : ∀ x ∈ g.params, x.name ≠ q.name) :
    g.putParam q = { g with params := g.params ++ [q] } := by
  unfold Group.putParam
  rw [List.findIdx?_eq_none_iff.mpr (fun x hx => by simpa using h x hx)]

theorem foldl_applyRec_params (i : Nat) (ps : List Param) : ∀ (gs : List Group) (g : Group), gs[i]? = some g →
    (ps.map fun p => toUpper p.name).Pairwise (· ≠ ·) → (∀ p ∈ ps, ∀ q ∈ g.params, q.name ≠ toUpper p.name) →
    (ps.map (Rec.param i)).foldl applyRec gs = gs.set i { g with params := g.params ++ ps.map Param.norm } := by
  induction ps with
  | nil =>
    intro gs g hgi _ _
    simp only [List.map_nil, List.foldl_nil, List.append_nil]
    rw [show ({ g with params := g.params } : Group) = id g from rfl, set_eq_modify gs i g id hgi, List.modify_id]
  | cons p t ih =>
    intro gs g hgi hd hf
    have hil : i < gs.length := (List.getElem?_eq_some_iff.mp hgi).1
    simp only [List.map_cons, List.pairwise_cons] at hd
    rw [List.map_cons, List.foldl_cons, applyRec_param_lt gs i p hil, ← set_eq_modify gs i g _ hgi,
      putParam_fresh g p.norm (fun x hx => hf p (by simp) x hx),
      ih _ _ (List.getElem?_set_self hil) hd.2]
    · simp [List.set_set]
    · intro q hq r hr
      rcases List.mem_append.mp hr with hr | hr
      · exact hf q (by simp [hq]) r hr
      · rw [List.mem_singleton.mp hr]
        exact hd.1 _ (List.mem_map.mpr ⟨q, hq, rfl⟩)

theorem foldl_applyRec_recsOf (gs : List Group) : ∀ (i : Nat) (acc : List Group), acc.length ≤ i →
    (∀ g ∈ gs, g.name ≠ [] → (g.params.map fun p => toUpper p.name).Pairwise (· ≠ ·)) →
    (recsOf gs i).foldl applyRec acc = readBack gs i acc := by
  induction gs with
  | nil => intro i acc _ _; rfl
  | cons g rest ih =>
    intro i acc hacc hd
    have hdr := fun x (hx : x ∈ rest) => hd x (by simp [hx])
    rw [recsOf, readBack, List.foldl_append]
    split
    · exact ih (i + 1) acc (by omega) hdr
    · next hn =>
      have hl := (length_ensureGroups acc i).trans (Nat.max_eq_right hacc)
      -- the group record appends `g.head` at index `i`; it has no parameters yet, so none of `g.params` meets its own name there
      rw [List.foldl_cons, applyRec_group_new acc i g hacc,
        foldl_applyRec_params i g.params _ g.head (by rw [List.getElem?_append_right (Nat.le_of_eq hl), hl, Nat.sub_self]; rfl) (hd g (by simp) hn)
          (by intro _ _ q hq; cases hq),
        List.set_append_right _ _ (Nat.le_of_eq hl), hl, Nat.sub_self, List.set_cons_zero]
      exact ih (i + 1) _ (by rw [List.length_append, hl]; exact Nat.le_refl _) hdr

end Ezc3d
