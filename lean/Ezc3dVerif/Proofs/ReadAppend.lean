import Ezc3dVerif.Proofs.Fields
/- The data section reads back: points, channels, sub-frames and frames, renamed by position as the reader names them. -/
namespace Ezc3d

def pointName (labels : List Bytes) (i : Nat) : Bytes :=
  rtrim (match labels[i]? with | some l => l | none => N.unlabeledPoint ++ decimal i)
def channelName (labels : List Bytes) (i : Nat) : Bytes :=
  rtrim (match labels[i]? with | some l => l | none => N.unlabeledAnalog ++ decimal i)

theorem adv_readPoint (labels : List Bytes) (i : Nat) (s : InStream) (p : Point) (b : Bytes) (k : Nat) (hf : s.failed = false) :
    readPoint labels i (s.adv (p.write ++ b) k) = ({ p with name := pointName labels i }, s.adv b (k + 16)) := by
  unfold readPoint
  simp only [Point.write, List.append_assoc, adv_readFloat, hf, Nat.add_assoc, Nat.reduceAdd, pointName]
  cases labels[i]? <;> rfl

theorem adv_readChannel (labels : List Bytes) (i : Nat) (s : InStream) (c : Channel) (b : Bytes) (k : Nat) (hf : s.failed = false) :
    readChannel labels i (s.adv (f32le c.v ++ b) k) = ({ c with name := channelName labels i }, s.adv b (k + 4)) := by
  unfold readChannel
  simp only [adv_readFloat, hf, channelName]
  cases labels[i]? <;> rfl

def relabelPts (labels : List Bytes) : Nat → List Point → List Point
  | _, [] => []
  | i, p :: ps => { p with name := pointName labels i } :: relabelPts labels (i + 1) ps
def relabelChs (labels : List Bytes) : Nat → List Channel → List Channel
  | _, [] => []
  | i, c :: cs => { c with name := channelName labels i } :: relabelChs labels (i + 1) cs

theorem adv_readPoints (labels : List Bytes) (pts : List Point) (s : InStream) (hf : s.failed = false) : ∀ (i : Nat) (b : Bytes) (k : Nat),
    readIdx (readPoint labels) pts.length i (s.adv ((pts.map Point.write).flatten ++ b) k)
      = (relabelPts labels i pts, s.adv b (k + 16 * pts.length)) := by
  induction pts with
  | nil => intro i b k; rfl
  | cons p ps ih =>
    intro i b k
    rw [List.map_cons, List.flatten_cons, List.append_assoc, List.length_cons, readIdx, adv_readPoint labels i s p _ k hf]
    simp only
    rw [ih, Nat.mul_succ, Nat.add_right_comm k 16, Nat.add_assoc k]
    rfl

def SubFrame.bytes (sf : List Channel) : Bytes := (sf.map fun c => f32le c.v).flatten

theorem adv_readChannels (labels : List Bytes) (cs : List Channel) (s : InStream) (hf : s.failed = false) : ∀ (i : Nat) (b : Bytes) (k : Nat),
    readIdx (readChannel labels) cs.length i (s.adv (SubFrame.bytes cs ++ b) k)
      = (relabelChs labels i cs, s.adv b (k + 4 * cs.length)) := by
  unfold SubFrame.bytes
  induction cs with
  | nil => intro i b k; rfl
  | cons c cs ih =>
    intro i b k
    rw [List.map_cons, List.flatten_cons, List.append_assoc, List.length_cons, readIdx, adv_readChannel labels i s c _ k hf]
    simp only
    rw [ih, Nat.mul_succ, Nat.add_right_comm k 4, Nat.add_assoc k]
    rfl

def relabelFrame (pl al : List Bytes) (f : Frame) : Frame :=
  { pts := relabelPts pl 0 f.pts, subs := f.subs.map (relabelChs al 0) }

def Frame.hasShape (np nsf nch : Nat) (f : Frame) : Prop :=
  f.pts.length = np ∧ f.subs.length = nsf ∧ ∀ sf ∈ f.subs, sf.length = nch

def frameBytes (np nsf nch : Nat) : Nat := 16 * np + 4 * nch * nsf

theorem Frame.write_eq (f : Frame) : f.write = (f.pts.map Point.write).flatten ++ (f.subs.map SubFrame.bytes).flatten := rfl

theorem adv_readFrame (np nsf nch : Nat) (pl al : List Bytes) (f : Frame) (s : InStream) (b : Bytes) (k : Nat)
    (hs : f.hasShape np nsf nch) (hf : s.failed = false) :
    readFrame np nsf nch pl al (s.adv (f.write ++ b) k) = (relabelFrame pl al f, s.adv b (k + frameBytes np nsf nch)) := by
  obtain ⟨rfl, h2, h3⟩ := hs
  unfold readFrame
  rw [Frame.write_eq, List.append_assoc, adv_readPoints pl f.pts s hf]
  simp only
  rw [adv_readMany _ SubFrame.bytes (relabelChs al 0) (4 * nch) f.subs nsf s h2
    fun sf hsf b k => h3 sf hsf ▸ adv_readChannels al sf s hf 0 b k]
  simp only [relabelFrame, frameBytes, Nat.add_assoc]

theorem readData_written (np nsf nch : Nat) (pl al : List Bytes) (frames : List Frame) (s : InStream) (b : Bytes)
    (hu : ∀ f ∈ frames, f.hasShape np nsf nch) (hf : s.failed = false) (hr : s.rest = writeData frames ++ b) :
    readMany (readFrame np nsf nch pl al) frames.length s
      = (frames.map (relabelFrame pl al), s.adv b (frameBytes np nsf nch * frames.length)) := by
  have := adv_readMany _ Frame.write (relabelFrame pl al) _ frames _ s rfl
    (fun f hfr b k => adv_readFrame np nsf nch pl al f s b k (hu f hfr) hf) b 0
  rwa [← writeData, ← hr, adv_zero, Nat.zero_add] at this

theorem relabelPts_map {α} (f : Point → α) (hf : ∀ p n, f { p with name := n } = f p) (l : List Bytes) (pts : List Point) : ∀ i,
    (relabelPts l i pts).map f = pts.map f := by
  induction pts with
  | nil => intro i; rfl
  | cons p ps ih => intro i; simp only [relabelPts, List.map_cons, hf, ih]
theorem relabelChs_map {α} (f : Channel → α) (hf : ∀ c n, f { c with name := n } = f c) (l : List Bytes) (cs : List Channel) : ∀ i,
    (relabelChs l i cs).map f = cs.map f := by
  induction cs with
  | nil => intro i; rfl
  | cons c cs ih => intro i; simp only [relabelChs, List.map_cons, hf, ih]

theorem relabelPts_id (l : List Bytes) (pts : List Point) : ∀ i,
    (∀ k (h : k < pts.length), pts[k].name = pointName l (i + k)) → relabelPts l i pts = pts := by
  induction pts with
  | nil => intro i _; rfl
  | cons p ps ih =>
    intro i h
    simp only [relabelPts]
    have h0 := h 0 (by simp)
    simp at h0
    rw [← h0, ih (i + 1) (fun k hk => by have := h (k + 1) (by simpa using hk); simpa [Nat.add_assoc, Nat.add_comm 1 k] using this)]
theorem relabelChs_id (l : List Bytes) (cs : List Channel) : ∀ i,
    (∀ k (h : k < cs.length), cs[k].name = channelName l (i + k)) → relabelChs l i cs = cs := by
  induction cs with
  | nil => intro i _; rfl
  | cons c cs ih =>
    intro i h
    simp only [relabelChs]
    have h0 := h 0 (by simp)
    simp at h0
    rw [← h0, ih (i + 1) (fun k hk => by have := h (k + 1) (by simpa using hk); simpa [Nat.add_assoc, Nat.add_comm 1 k] using this)]

end Ezc3d
