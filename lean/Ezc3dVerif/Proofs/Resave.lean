import Ezc3dVerif.Proofs.LoadWriteDec
import Ezc3dVerif.Proofs.WriteCongr
/-
  Saving the object that `load` returned for the bytes of `write s` produces those very bytes again:
  the writer looks at nothing that normalisation changed.
-/
namespace Ezc3d
open C12 N C14

theorem Param.norm_sameValues (p : Param) : p.norm.SameValues p :=
  ⟨rfl, rfl, by cases h : p.type <;> simp [Param.norm, h]⟩

theorem Param.write_norm (p : Param) (gid : Int) (ip : Bool) (hn : toUpper p.name = DATA_START ↔ p.name = DATA_START) :
    p.norm.write gid ip = p.write gid ip :=
  Param.write_congr (Param.norm_sameValues p) hn (C03.toUpper_idem _) rfl rfl gid ip

/-- the loaded parameter, whose name is upper-cased, is the writer's blank one exactly when the saved one was -/
def NameStable (p : Param) : Prop := toUpper p.name = DATA_START ↔ p.name = DATA_START

instance (p : Param) : Decidable (NameStable p) := by unfold NameStable; infer_instance

def GroupNameStable (g : Group) : Prop := (toUpper g.name = POINT ↔ g.name = POINT) ∧ ∀ p ∈ g.params, NameStable p

instance (g : Group) : Decidable (GroupNameStable g) := by unfold GroupNameStable; infer_instance

theorem setDSp_stable (v : Int) (p : Param) (h : NameStable p) : NameStable (setDSp v p) := by
  unfold NameStable; rw [setDSp_name]; exact h

theorem Group.write_reloaded (v : Int) (g : Group) (i : Nat) (h : GroupNameStable g) :
    ((setDSg v g).normG).write i = g.write i := by
  unfold Group.write Group.normG
  have hdesc : (setDSg v g).desc = g.desc := by unfold setDSg; split <;> rfl
  have hlock : (setDSg v g).locked = g.locked := by unfold setDSg; split <;> rfl
  have hb : (toUpper g.name == POINT) = (g.name == POINT) := by
    rw [Bool.eq_iff_iff, beq_iff_eq, beq_iff_eq]; exact h.1
  rw [setDSg_name, hdesc, hlock, C03.toUpper_idem, C03.toUpper_length, hb]
  -- the parameters: `norm` changes nothing the writer reads, and inside POINT neither does `setDSp`
  have hps : writeParamList ((i : Int) + 1) (g.name == POINT) ((setDSg v g).params.map Param.norm)
      = writeParamList ((i : Int) + 1) (g.name == POINT) g.params := by
    by_cases hp : g.name = POINT
    · have hparams : (setDSg v g).params = g.params.map (setDSp v) := by unfold setDSg; rw [if_pos hp]
      rw [hparams, List.map_map, beq_iff_eq.mpr hp]
      exact writeParamList_congr _ _ (All2.map_left _ _ fun p hp => by
        rw [Function.comp, Param.write_norm _ _ _ (setDSp_stable v p (h.2 p hp)), Param.write_setDSp])
    · rw [setDSg_not v g hp]
      exact writeParamList_congr _ _ (All2.map_left _ _ fun p hp => Param.write_norm p _ _ (h.2 p hp))
  rw [hps]

theorem Header.write_loaded (h : Header) (ds : Nat) (x : Int) : (h.loaded ds).write x = h.write x := rfl

theorem Frame.write_relabel (pl al : List Bytes) (f : Frame) : (relabelFrame pl al f).write = f.write := by
  unfold Frame.write relabelFrame
  simp only [List.map_map, Function.comp_def, relabelPts_map Point.write (fun _ _ => rfl),
    relabelChs_map (fun c => f32le c.v) (fun _ _ => rfl)]

theorem writeData_relabel (pl al : List Bytes) (frames : List Frame) :
    writeData (frames.map (relabelFrame pl al)) = writeData frames := by
  unfold writeData
  simp only [List.map_map, Function.comp_def, Frame.write_relabel]

theorem write_reloaded (s : C3D) (n : Nat) (pl al : List Bytes) (hstart : s.ph.start = 1)
    (hst : ∀ g ∈ s.groups, GroupNameStable g) :
    (s.reloaded n pl al).write = s.write := by
  refine C3D.write_congr (fun _ => rfl) hstart.symm ?_ (writeData_relabel pl al s.frames)
  show All2 _ ((s.groups.map _).map _) _
  rw [List.map_map]
  exact All2.map_left _ _ fun g hg =>
    ⟨by show toUpper (setDSg _ g).name = [] ↔ _; rw [setDSg_name, C03.toUpper_eq_nil], fun i => Group.write_reloaded _ g i (hst g hg)⟩

end Ezc3d
