import Ezc3dVerif.Model.Heap
import Ezc3dVerif.Proofs.ByName
/-
  Separation at the handle level (Model/Heap.lean). `Sep h`: the stored frames own their cells. `Stores h fs`: `h` is separated and
  its object stores the values `fs`; every heap operation is specified in this form (Properties/C08.lean: one `X_stores` per
  operation), which keeps `Sep` and matches the value model in one statement. The operations are compositions of a few primitive
  moves, each with its rule here: `Stores.withCells` (the frame rule), `alloc`, `pushVar`, `allocVar`, `allocPush`, `write`; the
  sixth, `Stores.allocSet`, is in Properties/C08.lean because it rests on `C08.Sep.replace`.
-/
namespace Ezc3d.Heap

theorem getD_append_lt {α} (l : List α) (x d : α) (a : Nat) (h : a < l.length) : (l ++ [x]).getD a d = l.getD a d := by
  simp [List.getD_eq_getElem?_getD, List.getElem?_append_left h]
theorem getD_set_ne {α} (l : List α) (a b : Nat) (v d : α) (h : a ≠ b) : (l.set a v).getD b d = l.getD b d := by
  simp [List.getD_eq_getElem?_getD, h]
theorem getD_set_eq {α} (l : List α) (a : Nat) (v d : α) (h : a < l.length) : (l.set a v).getD a d = v := by
  simp [List.getD_eq_getElem?_getD, h]

theorem set_getD_self {α} (l : List α) (a : Nat) (d : α) : l.set a (l.getD a d) = l := by
  by_cases h : a < l.length
  · rw [List.getD_eq_getElem?_getD, List.getElem?_eq_getElem h, Option.getD_some, List.set_getElem_self]
  · exact List.set_eq_of_length_le (Nat.le_of_not_lt h)

theorem not_mem_map {α} {key : α → Nat} {l : List α} {x : α} (hx : ∀ g ∈ l, key x ≠ key g) : key x ∉ l.map key :=
  fun hm => let ⟨g, hg, e⟩ := List.mem_map.mp hm; hx g hg e.symm

theorem nodup_push {l : List Nat} (hn : l.Nodup) {a : Nat} (ha : a ∉ l) : (l ++ [a]).Nodup :=
  List.nodup_append.mpr ⟨hn, by simp, fun _ hx _ hy e => ha (List.mem_singleton.mp hy ▸ e ▸ hx)⟩

theorem nodup_set {l : List Nat} (hn : l.Nodup) (i a : Nat) (ha : a ∉ l) : (l.set i a).Nodup := by
  induction l generalizing i with
  | nil => simp
  | cons b t ih =>
    rw [List.nodup_cons] at hn
    cases i with
    | zero => simp only [List.set_cons_zero, List.nodup_cons]; exact ⟨fun h => ha (by simp [h]), hn.2⟩
    | succ i =>
      simp only [List.set_cons_succ, List.nodup_cons]
      refine ⟨fun h => ?_, ih hn.2 i (fun h => ha (by simp [h]))⟩
      rcases List.mem_or_eq_of_mem_set h with h | h
      · exact hn.1 h
      · exact ha (by simp [h])

theorem Sep.init : Sep {} := by
  constructor <;> simp

theorem Sep.withCells {h : Heap} (s : Sep h) {P' : List (List Point)} {A' : List (List SubFrame)}
    (lp : h.P.length ≤ P'.length) (la : h.A.length ≤ A'.length) : Sep { h with P := P', A := A' } :=
  { s with
    allocS := fun f hf => ⟨Nat.lt_of_lt_of_le (s.allocS f hf).1 lp, Nat.lt_of_lt_of_le (s.allocS f hf).2 la⟩
    allocV := fun f hf => ⟨Nat.lt_of_lt_of_le (s.allocV f hf).1 lp, Nat.lt_of_lt_of_le (s.allocV f hf).2 la⟩ }

theorem Sep.withStored {h : Heap} (s : Sep h) (st : List HFrame)
    (nP : (st.map (·.pts)).Nodup) (nA : (st.map (·.subs)).Nodup)
    (hs : ∀ g ∈ st, (g.pts < h.P.length ∧ g.subs < h.A.length) ∧ ∀ f ∈ h.vars, f.pts ≠ g.pts ∧ f.subs ≠ g.subs) :
    Sep { h with stored := st } :=
  { s with
    nodupP := nP
    nodupA := nA
    allocS := fun g hg => (hs g hg).1
    apartP := fun f hf g hg => ((hs g hg).2 f hf).1
    apartA := fun f hf g hg => ((hs g hg).2 f hf).2 }

/-- what `Sep.withStored` asks of a frame holds of every frame stored now -/
theorem Sep.of_mem_stored {h : Heap} (s : Sep h) {g : HFrame} (hg : g ∈ h.stored) :
    (g.pts < h.P.length ∧ g.subs < h.A.length) ∧ ∀ f ∈ h.vars, f.pts ≠ g.pts ∧ f.subs ≠ g.subs :=
  ⟨s.allocS g hg, fun f hf => ⟨s.apartP f hf g hg, s.apartA f hf g hg⟩⟩

theorem Sep.push {h : Heap} (s : Sep h) (nf : HFrame)
    (ha : nf.pts < h.P.length ∧ nf.subs < h.A.length)
    (hp : ∀ g ∈ h.stored, nf.pts ≠ g.pts) (hs : ∀ g ∈ h.stored, nf.subs ≠ g.subs)
    (vp : ∀ f ∈ h.vars, f.pts ≠ nf.pts) (vs : ∀ f ∈ h.vars, f.subs ≠ nf.subs) :
    Sep { h with stored := h.stored ++ [nf] } := by
  refine s.withStored _ ?_ ?_ fun g hg => ?_
  · rw [List.map_append]; exact nodup_push s.nodupP (not_mem_map hp)
  · rw [List.map_append]; exact nodup_push s.nodupA (not_mem_map hs)
  · rcases List.mem_append.mp hg with hg | hg
    · exact s.of_mem_stored hg
    · cases List.mem_singleton.mp hg
      exact ⟨ha, fun f hf => ⟨vp f hf, vs f hf⟩⟩

structure Stores (h : Heap) (fs : List Frame) : Prop where
  sep : Sep h
  view : h.view = fs

theorem Sep.toStores {h : Heap} (s : Sep h) : Stores h h.view := ⟨s, rfl⟩

theorem Stores.length {h : Heap} {fs} (a : Stores h fs) : h.stored.length = fs.length := by
  rw [← a.view, Heap.view, List.length_map]

theorem Stores.withCells {h : Heap} {fs} (a : Stores h fs) {P' : List (List Point)} {A' : List (List SubFrame)}
    (lp : h.P.length ≤ P'.length) (la : h.A.length ≤ A'.length)
    (hd : ∀ k ∈ h.stored, P'.getD k.pts [] = h.derefP k.pts ∧ A'.getD k.subs [] = h.derefA k.subs) :
    Stores { h with P := P', A := A' } fs := by
  refine ⟨a.sep.withCells lp la, a.view ▸ List.map_congr_left fun k hk => ?_⟩
  simp only [Heap.deref, Heap.derefP, Heap.derefA] at hd ⊢
  rw [(hd k hk).1, (hd k hk).2]

theorem Stores.alloc {h : Heap} {fs} (a : Stores h fs) (p : List Point) (q : List SubFrame) :
    Stores { h with P := h.P ++ [p], A := h.A ++ [q] } fs :=
  a.withCells (by simp) (by simp) fun k hk =>
    ⟨getD_append_lt _ _ _ _ (a.sep.allocS k hk).1, getD_append_lt _ _ _ _ (a.sep.allocS k hk).2⟩

theorem Stores.pushVar {h : Heap} {fs} (a : Stores h fs) (f : HFrame) (ha : f.pts < h.P.length ∧ f.subs < h.A.length)
    (hp : ∀ g ∈ h.stored, f.pts ≠ g.pts ∧ f.subs ≠ g.subs) : Stores { h with vars := h.vars ++ [f] } fs := by
  have hv : ∀ x ∈ h.vars ++ [f], x ∈ h.vars ∨ x = f := by simp
  exact {
    view := a.view
    sep := { a.sep with
      allocV := fun x hx => (hv x hx).elim (a.sep.allocV x) (· ▸ ha)
      apartP := fun x hx g hg => (hv x hx).elim (a.sep.apartP x · g hg) (· ▸ (hp g hg).1)
      apartA := fun x hx g hg => (hv x hx).elim (a.sep.apartA x · g hg) (· ▸ (hp g hg).2) } }

theorem deref_alloc (h : Heap) (p : List Point) (q : List SubFrame) :
    ({ h with P := h.P ++ [p], A := h.A ++ [q] } : Heap).deref { pts := h.P.length, subs := h.A.length } = { pts := p, subs := q } := by
  simp only [Heap.deref, Heap.derefP, Heap.derefA, List.getD_eq_getElem?_getD, List.getElem?_concat_length, Option.getD_some]

theorem Stores.allocPush {h : Heap} {fs} (a : Stores h fs) (p : List Point) (q : List SubFrame) :
    Stores { h with P := h.P ++ [p], A := h.A ++ [q], stored := h.stored ++ [{ pts := h.P.length, subs := h.A.length }] }
      (fs ++ [{ pts := p, subs := q }]) := by
  have b := a.alloc p q
  refine ⟨b.sep.push _ (by simp) (fun g hg => Nat.ne_of_gt (a.sep.allocS g hg).1) (fun g hg => Nat.ne_of_gt (a.sep.allocS g hg).2)
    (fun f hf => Nat.ne_of_lt (a.sep.allocV f hf).1) (fun f hf => Nat.ne_of_lt (a.sep.allocV f hf).2), ?_⟩
  rw [← b.view, ← deref_alloc h p q]
  exact List.map_append

theorem Stores.allocVar {h : Heap} {fs} (a : Stores h fs) (p : List Point) (q : List SubFrame) :
    Stores { h with P := h.P ++ [p], A := h.A ++ [q], vars := h.vars ++ [{ pts := h.P.length, subs := h.A.length }] } fs :=
  (a.alloc p q).pushVar _ (by simp) fun g hg => ⟨Nat.ne_of_gt (a.sep.allocS g hg).1, Nat.ne_of_gt (a.sep.allocS g hg).2⟩

theorem Stores.write {h : Heap} {fs} (a : Stores h fs) {i : Nat} {f : HFrame} (hi : h.stored[i]? = some f)
    (gp : List Point → List Point) (ga : List SubFrame → List SubFrame) :
    Stores { h with P := h.P.set f.pts (gp (h.derefP f.pts)), A := h.A.set f.subs (ga (h.derefA f.subs)) }
      (fs.modify i fun fr => { pts := gp fr.pts, subs := ga fr.subs }) := by
  refine ⟨a.sep.withCells (by simp) (by simp), ?_⟩
  rw [← a.view]
  apply List.ext_getElem?
  intro j
  simp only [Heap.view, List.getElem?_modify, List.getElem?_map]
  cases hj : h.stored[j]? with
  | none => rfl
  | some k =>
    simp only [Option.map_some, Heap.deref, Heap.derefP, Heap.derefA]
    by_cases e : i = j
    · cases e
      cases hi.symm.trans hj
      have al := a.sep.allocS f (List.mem_of_getElem? hi)
      rw [getD_set_eq _ _ _ _ al.1, getD_set_eq _ _ _ _ al.2]
      simp only [Option.map_eq_map, Option.map_some, if_true]
    · rw [getD_set_ne _ _ _ _ _ fun e' => e (idx_inj_of_nodup_map a.sep.nodupP hi hj e'),
        getD_set_ne _ _ _ _ _ fun e' => e (idx_inj_of_nodup_map a.sep.nodupA hi hj e')]
      simp only [Option.map_eq_map, Option.map_some, e, if_false]

end Ezc3d.Heap
