import Ezc3dVerif.Model.Containers
/-
  In this order: a few facts about lists that core lacks; the look-ups by position and by name (`atIdx`, `nameIdx`, `byName`) in
  terms of `l[i]?`, `List.findIdx?` and `List.find?`, and across `List.modify`; `upsert`, the one loop behind every "store under a
  name" of the library (replace the first element of that name, else append), with `Group.putParam` / `Group.addParam` as its
  instances; `setAt` (`Data::frame` with an index) as `List.set` on the list grown to that index.
-/
namespace Ezc3d

theorem findIdx?_eq_of_map_eq {α β} {l : List α} {l' : List β} {p : α → Bool} {q : β → Bool} (h : l.map p = l'.map q) :
    l.findIdx? p = l'.findIdx? q :=
  (List.findIdx?_map (p := id) (f := p)).symm.trans ((congrArg (List.findIdx? id) h).trans List.findIdx?_map)

theorem map_set_same {α β} (f : α → β) (l : List α) (i : Nat) (a x : α) (hx : l[i]? = some x) (hf : f a = f x) :
    (l.set i a).map f = l.map f := by
  obtain ⟨hi, rfl⟩ := List.getElem?_eq_some_iff.mp hx
  rw [List.map_set, hf, ← List.getElem_map f (h := by simpa using hi), List.set_getElem_self]

theorem findIdx?_modify {α} (l : List α) (i : Nat) (f : α → α) (p : α → Bool)
    (hp : ∀ x, p (f x) = p x) : (l.modify i f).findIdx? p = l.findIdx? p := by
  induction l generalizing i with
  | nil => simp
  | cons a t ih =>
    cases i with
    | zero => simp [List.modify, List.findIdx?_cons, hp]
    | succ n =>
      simp only [List.modify_succ_cons, List.findIdx?_cons]
      rw [ih n]

theorem forall_mem_modify {α} {P : α → Prop} {l : List α} (h : ∀ x ∈ l, P x) (i : Nat) {f : α → α} (hf : ∀ x ∈ l, P (f x)) :
    ∀ x ∈ l.modify i f, P x := by
  intro x hx
  obtain ⟨j, hj⟩ := List.getElem?_of_mem hx
  rw [List.getElem?_modify] at hj
  obtain ⟨y, hy, rfl⟩ := Option.map_eq_some_iff.mp hj
  have hm := List.mem_of_getElem? hy
  split
  · exact hf y hm
  · exact h y hm

theorem modify_append_length {α} (pre : List α) (x : α) (post : List α) (F : α → α) :
    (pre ++ x :: post).modify pre.length F = pre ++ F x :: post := by
  induction pre <;> simp [*]

theorem idx_inj_of_nodup_map {α κ} {key : α → κ} {l : List α} (n : (l.map key).Nodup) {i j : Nat} {a b : α}
    (hi : l[i]? = some a) (hj : l[j]? = some b) (e : key a = key b) : i = j :=
  (List.getElem?_inj (by simpa using (List.getElem?_eq_some_iff.mp hi).1) n).mp
    (by rw [List.getElem?_map, List.getElem?_map, hi, hj, Option.map_some, Option.map_some, e])

theorem eq_of_mem_of_nodup_keys {κ β} (key : β → κ) {l : List β} (hnd : (l.map key).Nodup) {a b : β}
    (ha : a ∈ l) (hb : b ∈ l) (hk : key a = key b) : a = b := by
  obtain ⟨i, hi⟩ := List.getElem?_of_mem ha
  obtain ⟨j, hj⟩ := List.getElem?_of_mem hb
  cases idx_inj_of_nodup_map hnd hi hj hk
  exact Option.some.inj (hi.symm.trans hj)

theorem atIdx_eq_ok_iff {α : Type} {l : List α} {i : Nat} {a : α} : atIdx l i = .ok a ↔ l[i]? = some a := by
  unfold atIdx
  cases l[i]? <;> simp

theorem nameIdx_eq_ok_iff {α} {name : α → Bytes} {l : List α} {key : Bytes} {i : Nat} :
    nameIdx name l key = .ok i ↔ l.findIdx? (fun a => name a == key) = some i := by
  unfold nameIdx
  cases l.findIdx? (fun a => name a == key) <;> simp

theorem nameIdx_eq_throw_iff {α} {name : α → Bytes} {l : List α} {key : Bytes} {e : Exc} :
    nameIdx name l key = .throw e ↔ e = .invalid_argument ∧ l.findIdx? (fun a => name a == key) = none := by
  unfold nameIdx
  cases l.findIdx? (fun a => name a == key) <;> simp [eq_comm]

theorem nameIdx_ok_inv {α : Type} {name : α → Bytes} {l : List α} {key : Bytes} {i : Nat} (h : nameIdx name l key = .ok i) :
    ∃ a, atIdx l i = .ok a ∧ name a = key := by
  obtain ⟨hlt, hpk, _⟩ := List.findIdx?_eq_some_iff_getElem.mp (nameIdx_eq_ok_iff.mp h)
  exact ⟨l[i], atIdx_eq_ok_iff.mpr (List.getElem?_eq_getElem hlt), by simpa using hpk⟩

theorem nameIdx_inj {α : Type} {name : α → Bytes} {l : List α} {a b : Bytes} {i : Nat}
    (ha : nameIdx name l a = .ok i) (hb : nameIdx name l b = .ok i) : a = b := by
  obtain ⟨x, hx, rfl⟩ := nameIdx_ok_inv ha
  obtain ⟨y, hy, rfl⟩ := nameIdx_ok_inv hb
  rw [hx] at hy; cases hy; rfl

theorem byName_of_nameIdx {α : Type} {name : α → Bytes} {l : List α} {key : Bytes} {i : Nat} (h : nameIdx name l key = .ok i) :
    byName name l key = atIdx l i := by
  rw [byName, h]; rfl

theorem byName_eq_find {α : Type} {name : α → Bytes} {l : List α} {key : Bytes} : byName name l key =
    (match l.find? (fun a => name a == key) with | some a => .ok a | none => .throw .invalid_argument) := by
  unfold byName nameIdx atIdx
  rw [List.find?_eq_bind_findIdx?_getElem?]
  cases h : l.findIdx? (fun a => name a == key) with
  | none => rfl
  | some i => rw [Res.bind_ok, Option.bind_some, List.getElem?_eq_getElem (List.findIdx?_eq_some_iff_getElem.mp h).1]

theorem getParam_eq_find (gs : List Group) (g p : Bytes) : getParam gs g p =
    (match gs.find? (fun x => x.name == g) with
     | some grp => byName Param.name grp.params p
     | none => .throw .invalid_argument) := by
  unfold getParam
  rw [byName_eq_find]
  cases gs.find? (fun x => x.name == g) <;> rfl

theorem nameIdx_modify {α} (name : α → Bytes) (l : List α) (i : Nat) (f : α → α) (key : Bytes)
    (hn : ∀ x, name (f x) = name x) : nameIdx name (l.modify i f) key = nameIdx name l key := by
  unfold nameIdx
  rw [findIdx?_modify l i f (fun a => name a == key) (by intro x; simp [hn])]

theorem atIdx_modify {α} (l : List α) (i j : Nat) (f : α → α) :
    atIdx (l.modify i f) j = if i = j then (atIdx l j).map f else atIdx l j := by
  unfold atIdx Res.map
  rw [List.getElem?_modify]
  by_cases h : i = j
  · subst h; simp only [↓reduceIte]; cases l[i]? <;> rfl
  · simp only [h, ↓reduceIte]; cases l[j]? <;> rfl

/-- replace the first element with the key of `a` by `a`, else append `a` -/
def upsert {α} (key : α → Bytes) (a : α) : List α → List α
  | [] => [a]
  | x :: t => if key x = key a then a :: t else x :: upsert key a t

/-- the loop as the model writes it (`Group.addParam`, `Group.putParam`) is `upsert` -/
theorem upsert_eq {α} (key : α → Bytes) (a : α) (l : List α) :
    (match l.findIdx? (fun x => key x == key a) with | some k => l.set k a | none => l ++ [a]) = upsert key a l := by
  induction l with
  | nil => rfl
  | cons x t ih =>
    rw [List.findIdx?_cons, upsert, ← ih]
    by_cases h : key x = key a
    · rw [if_pos h, if_pos (beq_iff_eq.mpr h)]; rfl
    · rw [if_neg h, if_neg (fun hc => h (beq_iff_eq.mp hc))]
      cases t.findIdx? (fun x => key x == key a) <;> rfl

theorem find?_upsert {α} (key : α → Bytes) (a : α) (n : Bytes) (l : List α) :
    (upsert key a l).find? (fun x => key x == n) = if key a = n then some a else l.find? (fun x => key x == n) := by
  have hhd : ∀ (y : α) (t : List α), (y :: t).find? (fun x => key x == n) = if key y = n then some y else t.find? (fun x => key x == n) := by
    intro y t
    by_cases hy : key y = n
    · rw [if_pos hy, List.find?_cons_of_pos (by simpa using hy)]
    · rw [if_neg hy, List.find?_cons_of_neg (by simpa using hy)]
  induction l with
  | nil => exact hhd a []
  | cons x t ih =>
    rw [upsert]
    by_cases h : key x = key a
    · rw [if_pos h, hhd, hhd, h]
      split
      · rfl
      · rfl
    · rw [if_neg h, hhd, hhd, ih]
      by_cases hn : key a = n
      · rw [if_pos hn, if_pos hn, if_neg (fun hx => h (hx.trans hn.symm))]
      · rw [if_neg hn, if_neg hn]

theorem byName_upsert {α : Type} (name : α → Bytes) (a : α) (key : Bytes) (l : List α) :
    byName name (upsert name a l) key = if name a = key then .ok a else byName name l key := by
  rw [byName_eq_find, byName_eq_find, find?_upsert]
  by_cases h : name a = key
  · rw [if_pos h, if_pos h]
  · rw [if_neg h, if_neg h]

theorem mem_upsert {α} (key : α → Bytes) (a x : α) (l : List α) (h : x ∈ upsert key a l) : x ∈ l ∨ x = a := by
  induction l with
  | nil => exact Or.inr (List.mem_singleton.mp h)
  | cons y t ih =>
    rw [upsert] at h
    split at h
    · rcases List.mem_cons.mp h with h | h
      · exact Or.inr h
      · exact Or.inl (List.mem_cons_of_mem _ h)
    · rcases List.mem_cons.mp h with h | h
      · exact Or.inl (h ▸ List.mem_cons_self)
      · exact (ih h).imp (List.mem_cons_of_mem _) id

theorem map_upsert {α β} (key : α → Bytes) (key' : β → Bytes) (f : α → β) (a : α) (l : List α)
    (h : ∀ x ∈ l, key' (f x) = key' (f a) ↔ key x = key a) :
    (upsert key a l).map f = upsert key' (f a) (l.map f) := by
  induction l with
  | nil => rfl
  | cons x t ih =>
    rw [upsert, List.map_cons, upsert]
    by_cases hx : key x = key a
    · rw [if_pos hx, if_pos ((h x List.mem_cons_self).mpr hx)]; rfl
    · rw [if_neg hx, if_neg (fun hc => hx ((h x List.mem_cons_self).mp hc)), List.map_cons, ih fun y hy => h y (List.mem_cons_of_mem _ hy)]

/-- `Group::parameter(p)` for a typed parameter -/
def Group.putParam (g : Group) (q : Param) : Group :=
  match g.params.findIdx? (fun x => x.name == q.name) with
  | some k => { g with params := g.params.set k q }
  | none => { g with params := g.params ++ [q] }

theorem addParam_eq (g : Group) (p : Param) :
    g.addParam p = if p.type = .none then .throw .runtime_error else .ok (g.putParam p) := by
  unfold Group.addParam Group.putParam
  split
  · rfl
  · cases g.params.findIdx? (fun x => x.name == p.name) <;> rfl

theorem putParam_eq (g : Group) (p : Param) : g.putParam p = { g with params := upsert Param.name p g.params } := by
  rw [← upsert_eq]; unfold Group.putParam; cases g.params.findIdx? (fun x => x.name == p.name) <;> rfl

theorem forall_mem_putParam {P : Param → Prop} {g : Group} {q : Param} (hg : ∀ x ∈ g.params, P x) (hq : P q) :
    ∀ x ∈ (g.putParam q).params, P x := by
  intro x hx
  rw [putParam_eq] at hx
  rcases mem_upsert _ _ _ _ hx with hx | rfl
  · exact hg x hx
  · exact hq

theorem byName_putParam (g : Group) (p : Param) (key : Bytes) :
    byName Param.name (g.putParam p).params key = if p.name = key then .ok p else byName Param.name g.params key := by
  rw [putParam_eq]; exact byName_upsert _ _ _ _

theorem setAt_eq_set {α} (d : α) (l : List α) (idx : Nat) (x : α) :
    setAt d l idx x = (l ++ List.replicate (idx + 1 - l.length) d).set idx x := by
  unfold setAt
  split
  next hl => rw [List.set_append_left _ _ hl, Nat.sub_eq_zero_of_le hl, List.replicate_zero, List.append_nil]
  next hl =>
    have hl := Nat.le_of_not_lt hl
    rw [List.set_append_right _ _ hl, Nat.sub_add_comm hl, List.replicate_succ', List.set_append_right _ _ (by simp),
      List.length_replicate, Nat.sub_self, List.set_cons_zero]

theorem getElem?_setAt_self {α} (d : α) (l : List α) (idx : Nat) (x : α) : (setAt d l idx x)[idx]? = some x := by
  rw [setAt_eq_set, List.getElem?_set_self]
  rw [List.length_append, List.length_replicate]
  exact Nat.sub_le_iff_le_add'.mp (Nat.le_refl _)

theorem getElem?_setAt_of_ne {α} (d : α) (l : List α) (idx : Nat) (x : α) {j : Nat} (hj : j < l.length) (hne : j ≠ idx) :
    (setAt d l idx x)[j]? = l[j]? := by
  rw [setAt_eq_set, List.getElem?_set_ne (Ne.symm hne), List.getElem?_append_left hj]

end Ezc3d
