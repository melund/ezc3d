import Ezc3dVerif.Proofs.Fields
import Ezc3dVerif.Properties.C03
/-
  The header record reads back. `Header.bytesP h pa ds rest` spells the record field by field, right-nested so that the typed-read
  rules of Fields consume it one field at a time, with any parameter-block byte `pa` (`bytesR`, block 2, is what `Header.write`
  produces: `write_bytesR`). `Header_read_layout`: on `Z` zero bytes followed by that record `Header.read` returns `h.loadedAt Z pa ds`
  (`loaded` is the writer's case `Z = 0`, `pa = 2`: `loadedAt_zero_two`).
-/
namespace Ezc3d
open C12 N

def LabelOK (s : Bytes) : Prop := s.length ≤ 4 ∧ ∀ x ∈ s, x ≠ 0

theorem cstr_label4 (s : Bytes) (h : LabelOK s) : cstr (label4 s) = s := by
  rw [label4, List.take_of_length_le h.1]
  exact cstr_padded s _ h.2

theorem adv_readMany_labels (s : InStream) (l : List Bytes) (n : Nat) (hl : l.length = n) (hd : ∀ x ∈ l, LabelOK x)
    (hf : s.failed = false) (b : Bytes) (k : Nat) :
    readMany (fun s => s.readString 4) n (s.adv ((l.map label4).flatten ++ b) k) = (l, s.adv b (k + 4 * n)) := by
  rw [adv_readMany _ label4 id 4 l n s hl fun x h b k =>
    (adv_readCStr s 4 (label4 x) b k (C03.label4_length x) hf).trans (congrArg (·, _) (cstr_label4 x (hd x h))), List.map_id]

/-- The frame words are stored plus one, in `size_t`: `lf` bounds the WRAPPED sum because an object without frames has
    `lastFrame = 2^64 - 1` (`0 - 1` in `size_t`), which is written as the word 0 and read back as `0 - 1` again; `firstFrame` is
    never in that state and `ff` bounds the plain sum. `empty1` … `empty4` are 0: the reader takes each reserved run as ONE
    `hex2int` of the whole run while the writer fills the run with copies of that value's 16-bit word, and only 0 survives the two. -/
structure HdrOK (h : Header) : Prop where
  np : h.nbPoints < 65536
  nam : h.nbAnalogsMeas < 65536
  ff : h.firstFrame + 1 < 65536
  lf : u64 (h.lastFrame + 1) < 65536
  lf64 : h.lastFrame < two64
  gap : h.maxGap < 65536
  scale1 : -2147483648 ≤ h.scale
  scale2 : h.scale < 2147483648
  abf : h.nbAnalogByFrame < 65536
  e1 : h.empty1 = 0
  e2 : h.empty2 = 0
  e3 : h.empty3 = 0
  e4 : h.empty4 = 0
  klp : h.keyLabelPresent < 65536
  fbk : h.firstBlockKeyLabel < 65536
  fcp : h.fourCharPresent < 65536
  nev : h.nbEvents < 65536
  times : h.evTimes.length = 18
  displen : h.evDisplay.length = 9
  disp : ∀ d ∈ h.evDisplay, d < 65536
  lablen : h.evLabels.length = 18
  labels : ∀ x ∈ h.evLabels, LabelOK x

theorem HdrOK.wf {h : Header} (hk : HdrOK h) : C03.HdrWF h := ⟨hk.times, hk.displen, hk.lablen⟩

theorem HdrOK.ff64 {h : Header} (hk : HdrOK h) : h.firstFrame + 1 < two64 := Nat.lt_trans hk.ff (by decide)

/-- the first-frame word as `Header::write` computes it (in `size_t`) -/
theorem HdrOK.ffw {h : Header} (hk : HdrOK h) : u64 (h.firstFrame + 1) < 65536 := by
  rw [u64_small _ hk.ff64]; exact hk.ff

def Header.bytesR (h : Header) (ds : Nat) (rest : Bytes) : Bytes :=
  low8N 2 :: 0x50 :: (le16N h.nbPoints ++ (le16N h.nbAnalogsMeas ++ (le16N (u64 (h.firstFrame + 1)) ++ (le16N (u64 (h.lastFrame + 1)) ++
    (le16N h.maxGap ++ (le32 h.scale ++ (le16N ds ++ (le16N h.nbAnalogByFrame ++ (f32le h.rate ++ (List.replicate 270 0 ++
    (le16N h.keyLabelPresent ++ (le16N h.firstBlockKeyLabel ++ (le16N h.fourCharPresent ++ (le16N h.nbEvents ++ (List.replicate 2 0 ++
    ((h.evTimes.map f32le).flatten ++ ((h.evDisplay.map le16N).flatten ++ (List.replicate 2 0 ++ ((h.evLabels.map label4).flatten ++
    (List.replicate 44 0 ++ rest))))))))))))))))))))

theorem flatten_replicate_zeros (n : Nat) : (List.replicate n (le16 0)).flatten = List.replicate (2 * n) 0 := by
  induction n with
  | zero => rfl
  | succ k ih =>
    rw [List.replicate_succ, List.flatten_cons, ih, Nat.mul_succ]
    have : le16 0 = List.replicate 2 0 := by decide
    rw [this, List.replicate_append_replicate, Nat.add_comm]

theorem Header.write_bytesR (h : Header) (ds : Nat) (rest : Bytes) (hk : HdrOK h) :
    h.write (ds : Int) ++ rest = h.bytesR ds rest := by
  unfold Header.write Header.bytesR
  rw [hk.e1, hk.e2, hk.e3, hk.e4, flatten_replicate_zeros 135, flatten_replicate_zeros 22]
  simp only [List.append_assoc, List.cons_append, List.nil_append, le16N]
  rfl

def Header.bytesP (h : Header) (pa ds : Nat) (rest : Bytes) : Bytes :=
  low8N pa :: 0x50 :: (le16N h.nbPoints ++ (le16N h.nbAnalogsMeas ++ (le16N (u64 (h.firstFrame + 1)) ++ (le16N (u64 (h.lastFrame + 1)) ++
    (le16N h.maxGap ++ (le32 h.scale ++ (le16N ds ++ (le16N h.nbAnalogByFrame ++ (f32le h.rate ++ (List.replicate 270 0 ++
    (le16N h.keyLabelPresent ++ (le16N h.firstBlockKeyLabel ++ (le16N h.fourCharPresent ++ (le16N h.nbEvents ++ (List.replicate 2 0 ++
    ((h.evTimes.map f32le).flatten ++ ((h.evDisplay.map le16N).flatten ++ (List.replicate 2 0 ++ ((h.evLabels.map label4).flatten ++
    (List.replicate 44 0 ++ rest))))))))))))))))))))

theorem Header.bytesP_two (h : Header) (ds : Nat) (rest : Bytes) : h.bytesP 2 ds rest = h.bytesR ds rest := rfl

theorem Header.bytesP_length (h : Header) (pa ds : Nat) (rest : Bytes) (hk : HdrOK h) :
    (h.bytesP pa ds rest).length = 512 + rest.length := by
  show (h.bytesR ds rest).length = _
  rw [← Header.write_bytesR h ds rest hk, List.length_append, C03.header_length h ds hk.wf]

theorem Header.bytesP_split (h : Header) (pa ds : Nat) (rest : Bytes) : h.bytesP pa ds rest = h.bytesP pa ds [] ++ rest := by
  unfold Header.bytesP; simp only [List.append_assoc, List.cons_append, List.append_nil]

theorem hex2uint_2byte : hex2uint [(2 : UInt8)] = 2 := by decide

theorem skipZeros_zeros (pa : Nat) (hpa1 : 1 ≤ pa) (hpa2 : pa < 256) (t : Bytes) (s : InStream) (hf : s.failed = false)
    (he : s.eof = false) : ∀ (k fuel j z : Nat), k < fuel →
    skipZeros fuel (s.adv (List.replicate k 0 ++ low8N pa :: t) j) z = .ok ((pa, z + k + 1), s.adv t (j + k + 1)) := by
  intro k
  induction k with
  | zero =>
    intro fuel j z hfu
    obtain ⟨f, rfl⟩ : ∃ f, fuel = f + 1 := ⟨fuel - 1, by omega⟩
    simp only [List.replicate_zero, List.nil_append, skipZeros, adv_readUint1 _ _ _ _ hpa2 hf, adv_eof, he,
      Bool.false_eq_true, if_false, if_neg (Nat.ne_of_gt hpa1), Nat.add_zero]
  | succ n ih =>
    intro fuel j z hfu
    obtain ⟨f, rfl⟩ : ∃ f, fuel = f + 1 := ⟨fuel - 1, by omega⟩
    simp only [List.replicate_succ, List.cons_append, skipZeros, adv_readByte _ _ _ _ hf, UInt8.reduceToNat, adv_eof, he,
      Bool.false_eq_true, if_false, if_true, ih f (j + 1) (z + 1) (Nat.lt_of_succ_lt_succ hfu)]
    rw [Nat.add_right_comm z 1 n, Nat.add_right_comm j 1 n]
    rfl

def Header.loaded (h : Header) (ds : Nat) : Header := { h with zeros := 0, paramAddr := 2, checksum := 0x50, dataStart := ds }

def Header.loadedAt (h : Header) (Z pa ds : Nat) : Header := { h with zeros := Z, paramAddr := pa, checksum := 0x50, dataStart := ds }

theorem Header.loadedAt_zero_two (h : Header) (ds : Nat) : h.loadedAt 0 2 ds = h.loaded ds := rfl

theorem Header_read_layout (h : Header) (Z pa ds : Nat) (rest file : Bytes) (s0 : InStream) (hk : HdrOK h) (hds : ds < 65536)
    (hpa1 : 1 ≤ pa) (hpa2 : pa < 256)
    (hfile : OnFile s0 file) (hfe : file = List.replicate Z 0 ++ h.bytesP pa ds rest) :
    Header.read s0 = .ok (h.loadedAt Z pa ds, (InStream.open_ file).adv rest (Z + 512)) := by
  unfold Header.read
  rw [show s0.seekBeg 0 = InStream.open_ file from (seekBeg_at s0 file [] file hfile rfl).trans (adv_zero _)]
  generalize hs : InStream.open_ file = s
  have hf : s.failed = false := by rw [← hs]; rfl
  have he : s.eof = false := by rw [← hs]; rfl
  have hr : s = s.adv (List.replicate Z 0 ++ h.bytesP pa ds rest) 0 := by rw [← hfe, ← hs]; rfl
  obtain ⟨t1, ht1⟩ : ∃ t1, h.bytesP pa ds rest = low8N pa :: t1 := ⟨_, rfl⟩
  -- the first byte and the loop over the leading zeros are the scrutinee of the `match`, which stands in the goal once the `let`s are reduced
  dsimp only
  generalize hfirst : (if (s.readUint 1).1 ≠ 0 then _ else skipZeros _ _ _ : RRes (Nat × Nat)) = first
  replace hfirst : first = .ok ((pa, Z), s.adv t1 (Z + 1)) := by
    rw [← hfirst, hr, ht1]
    cases Z with
    | zero =>
      simp only [List.replicate_zero, List.nil_append, adv_readUint1 _ _ _ _ hpa2 hf, if_pos (Nat.ne_of_gt hpa1),
        adv_adv]
    | succ k =>
      simp only [List.replicate_succ, List.cons_append, adv_readByte _ _ _ _ hf, UInt8.reduceToNat, ne_eq, not_true_eq_false,
        if_false, adv_rest, adv_adv]
      rw [skipZeros_zeros pa hpa1 hpa2 t1 s hf he k _ _ 0 (by simp; omega), Nat.zero_add, Nat.zero_add, Nat.add_comm 1 k, Nat.zero_add]
  rw [hfirst]
  cases ht1
  -- the other 21 of the record's 22 reads: each `adv_read*` rule consumes its field, the side conditions are the fields of `hk`
  simp only [adv_readByte, adv_readUint2, adv_readInt4, adv_readFloat, adv_readZeros,
    adv_readMany_float _ _ _ hk.times, adv_readMany_uint2 _ _ _ hk.displen hk.disp,
    adv_readMany_labels _ _ _ hk.lablen hk.labels,
    hf, hk.np, hk.nam, hk.ffw, hk.lf, hk.gap, hk.scale1, hk.scale2, hds, hk.abf, hk.klp, hk.fbk, hk.fcp, hk.nev,
    UInt8.reduceToNat, Nat.add_assoc, Nat.reduceAdd, Nat.reduceMul,
    ne_eq, not_true_eq_false, if_false,
    subU64_succ h.firstFrame (Nat.lt_trans (Nat.lt_succ_self _) hk.ff64), subU64_succ h.lastFrame hk.lf64]
  -- what is left: the four reserved runs were read as 0, and are 0 in `h`
  have e1 := hk.e1; have e2 := hk.e2; have e3 := hk.e3; have e4 := hk.e4
  cases h
  cases e1; cases e2; cases e3; cases e4
  rfl

end Ezc3d
