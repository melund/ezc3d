import Ezc3dVerif.Proofs.Outcome
import Ezc3dVerif.Proofs.ByName
/-
  Look-ups in the parameter tree. A look-up by names is the search for a position (`gpIdx`) followed by the positional
  access (`cell`); the search sees only names, so it is unaffected by an in-place rewrite that keeps them, and two pairs of
  names found at one position are the same pair. Hence `getParam_modParam`: after `modParam` at the position found under
  `(g0, p0)` every look-up returns what it returned before, rewritten exactly under `(g0, p0)`. The typed reads follow a
  `getParam` equation by `int0_congr`, `float0_congr`, `strsOf_congr`. The second half of the file is `Off G S gs g'`, what a
  series of such rewrites leaves.
-/
namespace Ezc3d
open N

def cell (gs : List Group) (gi pi : Nat) : Res Param := (atIdx gs gi).bind fun g => atIdx g.params pi

/-- a typed read at a position, as `updateAnalogParams` spells it -/
theorem cell_bind {α} (gs : List Group) (gi pi : Nat) (get : Param → Res α) :
    ((atIdx gs gi).bind fun g => (atIdx g.params pi).bind get) = (cell gs gi pi).bind get := by
  unfold cell; cases atIdx gs gi <;> rfl

theorem gpIdx_ok_inv {gs : List Group} {g p : Bytes} {gi pi : Nat} (h : gpIdx gs g p = .ok (gi, pi)) :
    ∃ grp, groupIdx gs g = .ok gi ∧ atIdx gs gi = .ok grp ∧ grp.paramIdx p = .ok pi := by
  unfold gpIdx at h
  obtain ⟨gi', hgi, h⟩ := Res.bind_ok_iff.mp h
  obtain ⟨grp, hgrp, h⟩ := Res.bind_ok_iff.mp h
  obtain ⟨pi', hpi, h⟩ := Res.bind_ok_iff.mp h
  cases h
  exact ⟨grp, hgi, hgrp, hpi⟩

theorem gpIdx_group {gs : List Group} {g p : Bytes} {gi pi : Nat} (h : gpIdx gs g p = .ok (gi, pi)) : groupIdx gs g = .ok gi :=
  (gpIdx_ok_inv h).choose_spec.1

/-- the updaters rewrite at the group index they found first -/
theorem gpIdx_at {gs : List Group} {g p : Bytes} {gi gi' pi : Nat} (h : gpIdx gs g p = .ok (gi', pi)) (hg : groupIdx gs g = .ok gi) :
    gpIdx gs g p = .ok (gi, pi) := by
  have h' := gpIdx_group h
  rw [hg] at h'; cases h'; exact h

theorem gpIdx_inj {gs : List Group} {g p g' p' : Bytes} {ij : Nat × Nat} (h : gpIdx gs g p = .ok ij) (h' : gpIdx gs g' p' = .ok ij) :
    g = g' ∧ p = p' := by
  obtain ⟨grp, h1, h2, h3⟩ := gpIdx_ok_inv h
  obtain ⟨grp', h1', h2', h3'⟩ := gpIdx_ok_inv h'
  rw [h2] at h2'; cases h2'
  exact ⟨nameIdx_inj h1 h1', nameIdx_inj h3 h3'⟩

theorem getParam_eq_cell (gs : List Group) (g p : Bytes) :
    getParam gs g p = (gpIdx gs g p).bind fun ij => cell gs ij.1 ij.2 := by
  unfold getParam byName gpIdx groupIdx Group.paramIdx cell
  cases nameIdx Group.name gs g with
  | ok gi =>
    simp only [Res.bind_ok]
    cases h2 : atIdx gs gi with
    | ok grp =>
      simp only [Res.bind_ok]
      cases nameIdx Param.name grp.params p <;> simp only [Res.bind_ok, Res.bind_throw, Res.bind_ub, h2]
    | throw e => rfl
    | ub k => rfl
  | throw e => rfl
  | ub k => rfl

theorem getParam_ok_iff {gs : List Group} {g p : Bytes} {q : Param} :
    getParam gs g p = .ok q ↔ ∃ gi pi, gpIdx gs g p = .ok (gi, pi) ∧ cell gs gi pi = .ok q := by
  rw [getParam_eq_cell, Res.bind_ok_iff]
  exact ⟨fun ⟨ij, h1, h2⟩ => ⟨ij.1, ij.2, h1, h2⟩, fun ⟨gi, pi, h1, h2⟩ => ⟨(gi, pi), h1, h2⟩⟩

theorem gpIdx_ok_getParam {gs : List Group} {g p : Bytes} {gi pi : Nat} (h : gpIdx gs g p = .ok (gi, pi)) :
    ∃ q, getParam gs g p = .ok q ∧ cell gs gi pi = .ok q := by
  obtain ⟨grp, _, hgrp, hpi⟩ := gpIdx_ok_inv h
  obtain ⟨q, hq, _⟩ := nameIdx_ok_inv hpi
  have hc : cell gs gi pi = .ok q := by unfold cell; rw [hgrp]; exact hq
  exact ⟨q, getParam_ok_iff.mpr ⟨gi, pi, h, hc⟩, hc⟩

theorem getParam_nonempty {gs : List Group} {g p : Bytes} {q : Param} (h : getParam gs g p = .ok q) :
    ∀ ga, byName Group.name gs g = .ok ga → ga.params.length ≠ 0 := by
  intro ga hga h0
  unfold getParam at h
  rw [hga, Res.bind_ok, List.eq_nil_of_length_eq_zero h0] at h
  cases h

theorem groupIdx_modParam (gs : List Group) (gi pi : Nat) (f : Param → Param) (key : Bytes) :
    groupIdx (modParam gs gi pi f) key = groupIdx gs key :=
  nameIdx_modify Group.name gs gi _ key fun _ => rfl

theorem gpIdx_modParam (gs : List Group) (gi pi : Nat) (f : Param → Param) (hn : ∀ q, (f q).name = q.name)
    (g p : Bytes) : gpIdx (modParam gs gi pi f) g p = gpIdx gs g p := by
  unfold gpIdx
  rw [groupIdx_modParam]
  unfold Group.paramIdx modParam
  cases groupIdx gs g with
  | ok j =>
    simp only [Res.bind_ok, atIdx_modify]
    split
    · cases atIdx gs j with
      | ok grp => simp only [Res.map, Res.bind_ok]; rw [nameIdx_modify Param.name grp.params pi f p hn]
      | throw e => rfl
      | ub k => rfl
    · rfl
  | throw e => rfl
  | ub k => rfl

theorem cell_modParam (gs : List Group) (gi pi gj pj : Nat) (f : Param → Param) :
    cell (modParam gs gi pi f) gj pj = if gi = gj ∧ pi = pj then (cell gs gj pj).map f else cell gs gj pj := by
  unfold cell modParam
  rw [atIdx_modify]
  by_cases hg : gi = gj
  · subst hg
    cases atIdx gs gi with
    | ok grp =>
      simp only [Res.map, Res.bind_ok, true_and, if_true]
      rw [atIdx_modify]; rfl
    | throw e => simp [Res.map]
    | ub k => simp [Res.map]
  · simp [hg]

theorem getParam_modParam (gs : List Group) (g0 p0 : Bytes) (gi pi : Nat) (f : Param → Param)
    (hn : ∀ q, (f q).name = q.name) (hidx : gpIdx gs g0 p0 = .ok (gi, pi)) (g p : Bytes) :
    getParam (modParam gs gi pi f) g p =
      if g = g0 ∧ p = p0 then (getParam gs g p).map f else getParam gs g p := by
  rw [getParam_eq_cell, getParam_eq_cell, gpIdx_modParam gs gi pi f hn]
  cases h : gpIdx gs g p with
  | ok ij =>
    have : (gi = ij.1 ∧ pi = ij.2) ↔ (g = g0 ∧ p = p0) := by
      constructor
      · rintro ⟨rfl, rfl⟩; exact gpIdx_inj h hidx
      · rintro ⟨rfl, rfl⟩; rw [hidx] at h; cases h; exact ⟨rfl, rfl⟩
    simp only [Res.bind_ok, cell_modParam, this]
  | throw e => split <;> rfl
  | ub k => split <;> rfl

theorem getParam_modParam_other (gs : List Group) (gi pi : Nat) (f : Param → Param) (g p : Bytes)
    (hg : groupIdx gs g ≠ .ok gi) : getParam (modParam gs gi pi f) g p = getParam gs g p := by
  unfold getParam byName
  rw [show nameIdx Group.name (modParam gs gi pi f) g = nameIdx Group.name gs g from groupIdx_modParam gs gi pi f g]
  cases hj : nameIdx Group.name gs g with
  | throw e => rfl
  | ub k => rfl
  | ok j =>
    simp only [Res.bind_ok]
    unfold modParam
    rw [atIdx_modify]
    have : gi ≠ j := by intro h; subst h; exact hg hj
    simp [this]

theorem getParam_lock (gs : List Group) (gi : Nat) (v : Bool) (g p : Bytes) :
    getParam (gs.modify gi fun x => { x with locked := v }) g p = getParam gs g p := by
  unfold getParam byName
  rw [nameIdx_modify Group.name gs gi _ g (by intro x; rfl)]
  cases nameIdx Group.name gs g with
  | throw e => rfl
  | ub k => rfl
  | ok j =>
    simp only [Res.bind_ok, atIdx_modify]
    split
    · cases atIdx gs j <;> rfl
    · rfl

theorem int0_congr {gs gs' : List Group} {g p : Bytes} (h : getParam gs' g p = getParam gs g p) : int0 gs' g p = int0 gs g p := by
  unfold int0; rw [h]
theorem float0_congr {gs gs' : List Group} {g p : Bytes} (h : getParam gs' g p = getParam gs g p) : float0 gs' g p = float0 gs g p := by
  unfold float0; rw [h]
theorem strsOf_congr {gs gs' : List Group} {g p : Bytes} (h : getParam gs' g p = getParam gs g p) : strsOf gs' g p = strsOf gs g p := by
  unfold strsOf; rw [h]

/-- `g'` answers every look-up as `gs` does, at the same positions, except under the names `S` of group `G` -/
structure Off (G : Bytes) (S : List Bytes) (gs g' : List Group) : Prop where
  grp : ∀ x, groupIdx g' x = groupIdx gs x
  pos : ∀ g p, gpIdx g' g p = gpIdx gs g p
  get : ∀ g p, ¬ (g = G ∧ p ∈ S) → getParam g' g p = getParam gs g p

namespace Off
variable {G P : Bytes} {S S' : List Bytes} {gs g1 g2 : List Group}

theorem refl : Off G S gs gs := ⟨fun _ => rfl, fun _ _ => rfl, fun _ _ _ => rfl⟩

theorem trans (h1 : Off G S gs g1) (h2 : Off G S' g1 g2) : Off G (S ++ S') gs g2 :=
  ⟨fun x => (h2.grp x).trans (h1.grp x), fun g p => (h2.pos g p).trans (h1.pos g p), fun g p hne =>
    (h2.get g p fun h => hne ⟨h.1, List.mem_append_right _ h.2⟩).trans (h1.get g p fun h => hne ⟨h.1, List.mem_append_left _ h.2⟩)⟩

theorem modParam {gi gi' pi : Nat} {f : Param → Param} (hn : ∀ q, (f q).name = q.name) (hidx : gpIdx gs G P = .ok (gi', pi))
    (hg : groupIdx gs G = .ok gi) : Off G [P] gs (Ezc3d.modParam gs gi pi f) :=
  ⟨groupIdx_modParam gs gi pi f, gpIdx_modParam gs gi pi f hn, fun g p hne =>
    (getParam_modParam gs G P gi pi f hn (gpIdx_at hidx hg) g p).trans (if_neg fun h => hne ⟨h.1, List.mem_singleton.mpr h.2⟩)⟩

theorem ifPresent {gi : Nat} {f : Param → Param} (hn : ∀ q, (f q).name = q.name) (hg : groupIdx gs G = .ok gi) :
    Off G [P] gs (modIfPresent gs G P gi f) := by
  unfold modIfPresent
  split
  · exact modParam hn ‹_› hg
  · exact refl

theorem group (h : Off G S gs g1) {gi : Nat} (hg : groupIdx gs G = .ok gi) : groupIdx g1 G = .ok gi := (h.grp G).trans hg

/-- the side condition is a `Bool` because that is what `decide` evaluates cheaply on concrete names -/
theorem same (h : Off G S gs g1) {p : Bytes} (hp : S.contains p = false) : getParam g1 G p = getParam gs G p :=
  h.get G p fun hc => Bool.eq_false_iff.mp hp (List.contains_iff_mem.mpr hc.2)

theorem int0 (h : Off G S gs g1) {p : Bytes} (hp : S.contains p = false) : int0 g1 G p = Ezc3d.int0 gs G p := int0_congr (h.same hp)
theorem strsOf (h : Off G S gs g1) {p : Bytes} (hp : S.contains p = false) : strsOf g1 G p = Ezc3d.strsOf gs G p := strsOf_congr (h.same hp)

theorem other (h : Off G S gs g1) (g p : Bytes) (hg : g ≠ G) : getParam g1 g p = getParam gs g p :=
  h.get g p fun hc => hg hc.1

end Off

theorem groupIdx_modIfPresent (gs : List Group) (G P : Bytes) (gi : Nat) (f : Param → Param) (g : Bytes) :
    groupIdx (modIfPresent gs G P gi f) g = groupIdx gs g := by
  unfold modIfPresent; split
  · exact groupIdx_modParam _ _ _ _ _
  · rfl

theorem getParam_modIfPresent_ne (gs : List Group) (G P : Bytes) (gi : Nat) (f : Param → Param) (hn : ∀ q, (f q).name = q.name)
    (hgi : groupIdx gs G = .ok gi) (g p : Bytes) (hne : ¬ (g = G ∧ p = P)) :
    getParam (modIfPresent gs G P gi f) g p = getParam gs g p :=
  (Off.ifPresent hn hgi).get g p fun h => hne ⟨h.1, List.mem_singleton.mp h.2⟩

end Ezc3d
