import Ezc3dVerif.Proofs.NoUB
/-
  C11 — look-ups return the right element or throw the documented error.
  Every theorem is for all container sizes, all indices (any Nat, hence every size_t value), all names;
  the look-ups as list searches are in Proofs/ByName.lean.
-/
namespace Ezc3d.C11

theorem atIdx_ok {α} (l : List α) (i : Nat) (h : i < l.length) : atIdx l i = .ok l[i] := by
  rw [atIdx, List.getElem?_eq_getElem h]

theorem atIdx_out_of_range {α} (l : List α) (i : Nat) (h : l.length ≤ i) :
    atIdx l i = .throw .out_of_range := by
  rw [atIdx, List.getElem?_eq_none h]

theorem atIdx_ok_iff {α} (l : List α) (i : Nat) : (∃ a, atIdx l i = .ok a) ↔ i < l.length := by
  refine ⟨fun ⟨a, h⟩ => Nat.lt_of_not_le fun hi => ?_, fun h => ⟨_, atIdx_ok l i h⟩⟩
  rw [atIdx_out_of_range l i hi] at h; cases h

/-- by-name search returns the FIRST element whose name equals the key, byte for byte -/
theorem nameIdx_ok {α} (name : α → Bytes) (l : List α) (key : Bytes) (i : Nat)
    (h : nameIdx name l key = .ok i) :
    ∃ hi : i < l.length, name l[i] = key ∧ ∀ j (hj : j < i), name (l[j]'(by omega)) ≠ key := by
  obtain ⟨hi, hp, hlt⟩ := List.findIdx?_eq_some_iff_getElem.mp (nameIdx_eq_ok_iff.mp h)
  exact ⟨hi, beq_iff_eq.mp hp, fun j hj hc => hlt j hj (beq_iff_eq.mpr hc)⟩

/-- … or invalid_argument when no element has that name -/
theorem nameIdx_missing {α} (name : α → Bytes) (l : List α) (key : Bytes)
    (h : ∀ a ∈ l, name a ≠ key) : nameIdx name l key = .throw .invalid_argument :=
  nameIdx_eq_throw_iff.mpr ⟨rfl, List.findIdx?_eq_none_iff.mpr fun a ha => beq_eq_false_iff_ne.mpr (h a ha)⟩

theorem nameIdx_present {α} (name : α → Bytes) (l : List α) (key : Bytes)
    (h : ∃ a ∈ l, name a = key) : ∃ i, nameIdx name l key = .ok i := by
  obtain ⟨a, ha, hk⟩ := h
  exact ⟨_, nameIdx_eq_ok_iff.mpr (List.findIdx?_eq_some_of_exists ⟨a, ha, beq_iff_eq.mpr hk⟩)⟩

/-- name look-up and positional look-up of the same element return the same data -/
theorem byName_eq_atIdx {α} (name : α → Bytes) (l : List α) (key : Bytes) (i : Nat)
    (h : nameIdx name l key = .ok i) : byName name l key = atIdx l i :=
  byName_of_nameIdx h

theorem byName_no_ub {α} (name : α → Bytes) (l : List α) (key : Bytes) (k : UBKind) :
    byName name l key ≠ .ub k :=
  byName_noUB name l key k

/-- reading a parameter's values as its own type succeeds, as any other type it throws
    invalid_argument -/
theorem asInt_iff (p : Param) : (∃ v, p.asInt = .ok v) ↔ p.type = .int := Res.guard_ok_iff
theorem asInt_wrong (p : Param) (h : p.type ≠ .int) : p.asInt = .throw .invalid_argument := if_neg h
theorem asByte_iff (p : Param) : (∃ v, p.asByte = .ok v) ↔ p.type = .byte := Res.guard_ok_iff
theorem asByte_wrong (p : Param) (h : p.type ≠ .byte) : p.asByte = .throw .invalid_argument := if_neg h
theorem asFloat_iff (p : Param) : (∃ v, p.asFloat = .ok v) ↔ p.type = .float := Res.guard_ok_iff
theorem asFloat_wrong (p : Param) (h : p.type ≠ .float) : p.asFloat = .throw .invalid_argument := if_neg h
theorem asString_iff (p : Param) : (∃ v, p.asString = .ok v) ↔ p.type = .char := Res.guard_ok_iff
theorem asString_wrong (p : Param) (h : p.type ≠ .char) : p.asString = .throw .invalid_argument := if_neg h

/-! trailing-space trimming: a point or channel named with trailing spaces is stored and found under
    the trimmed name -/

theorem rtrim_append_spaces (n : Bytes) (k : Nat) : rtrim (n ++ List.replicate k 32) = rtrim n := by
  unfold rtrim
  rw [List.reverse_append, List.reverse_replicate, List.dropWhile_append_of_pos]
  intro a ha
  rw [List.eq_of_mem_replicate ha]; rfl

theorem rtrim_id (n : Bytes) (h : n.getLast? ≠ some 32) : rtrim n = n := by
  unfold rtrim
  rw [← List.head?_reverse] at h
  cases hr : n.reverse with
  | nil => rw [List.reverse_eq_nil_iff.mp hr]; rfl
  | cons a t =>
    rw [hr] at h
    have ha : ¬ (a == 32) = true := fun ha => h (congrArg some (beq_iff_eq.mp ha))
    rw [List.dropWhile_cons_of_neg (p := (· == 32)) ha, ← hr, List.reverse_reverse]

theorem rtrim_padded (n : Bytes) (k : Nat) (h : n.getLast? ≠ some 32) : rtrim (n ++ List.replicate k 32) = n :=
  (rtrim_append_spaces n k).trans (rtrim_id n h)

theorem point_named_padded (p : Point) (n : Bytes) (k : Nat) (h : n.getLast? ≠ some 32) :
    (p.setName (n ++ List.replicate k 32)).name = n := rtrim_padded n k h

theorem channel_named_padded (c : Channel) (n : Bytes) (k : Nat) (h : n.getLast? ≠ some 32) :
    (c.setName (n ++ List.replicate k 32)).name = n := rtrim_padded n k h

/-- a point stored under a padded name is found under the trimmed name -/
theorem padded_point_found (pts : List Point) (p : Point) (n : Bytes) (k : Nat)
    (h : n.getLast? ≠ some 32) (hn : ∀ q ∈ pts, q.name ≠ n) :
    nameIdx Point.name (pts ++ [p.setName (n ++ List.replicate k 32)]) n = .ok pts.length := by
  rw [nameIdx_eq_ok_iff, List.findIdx?_append,
    List.findIdx?_eq_none_iff.mpr fun q hq => beq_eq_false_iff_ne.mpr (hn q hq),
    List.findIdx?_cons, point_named_padded p n k h]
  simp

/-- non-vacuity: a concrete container where look-ups hit, miss and are case sensitive -/
example : nameIdx Point.name [{ name := [97] }, { name := [98] }, { name := [98], x := 1 }] [98] = .ok 1 := by decide
example : nameIdx Point.name [{ name := [97] }, { name := [98] }] [66] = .throw .invalid_argument := by decide
example : atIdx [1, 2, 3] 18446744073709551615 = (.throw .out_of_range : Res Nat) := by decide

end Ezc3d.C11
