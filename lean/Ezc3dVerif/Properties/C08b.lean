import Ezc3dVerif.Properties.C08
import Ezc3dVerif.Proofs.Heap
/-
  C08 (continued) — objects that come from a file. `Data::Data(c3d&)` sizes `_frames` with blank frames and then, slot by slot,
  `_frames[j].add(points)` and `_frames[j].add(analogs)`: each slot gets its own fresh cells (`fillSlot`; that the C++ loader
  does exactly this is observed on the real heap, not proved). The frames of a loaded object are separated from each other and
  from every Frame object of the caller, the object stores exactly the values read, and `Sep` is an invariant of every history
  that also loads.
-/
namespace Ezc3d.Heap

def Heap.fillSlot (h : Heap) (j : Nat) (v : Frame) : Heap :=
  { h with P := h.P ++ [v.pts], A := h.A ++ [v.subs], stored := h.stored.set j { pts := h.P.length, subs := h.A.length } }

def Heap.fillFrom (h : Heap) : Nat → List Frame → Heap
  | _, [] => h
  | j, v :: rest => (h.fillSlot j v).fillFrom (j + 1) rest

/-- `Data::Data(c3d&)` of a NEW object (the caller's Frame objects live on): `_frames.resize(n)`, then every slot filled.
    `stored := []`: the heap holds ONE object's `_frames`, so the new object takes the place of the one before; the cells of that
    one stay allocated (nothing is freed) and no longer count as stored -/
def Heap.loadFrames (h : Heap) (vs : List Frame) : Heap :=
  (({ h with stored := [] } : Heap).growBy vs.length).fillFrom 0 vs

end Ezc3d.Heap

namespace Ezc3d.C08
open Ezc3d.Heap

theorem fillSlot_stores {h : Heap} {fs} (a : Stores h fs) (j : Nat) (v : Frame) : Stores (h.fillSlot j v) (fs.set j v) :=
  a.allocSet v.pts v.subs j

theorem fillFrom_stores {h : Heap} {pre old : List Frame} (a : Stores h (pre ++ old)) (vs : List Frame)
    (hl : old.length = vs.length) : Stores (h.fillFrom pre.length vs) (pre ++ vs) := by
  induction vs generalizing h pre old with
  | nil => rwa [List.length_eq_zero_iff.mp hl] at a
  | cons v rest ih =>
    cases old with
    | nil => cases hl
    | cons o old' =>
      have b := fillSlot_stores a pre.length v
      rw [List.set_append_right _ _ (Nat.le_refl _), Nat.sub_self, List.set_cons_zero, List.append_cons] at b
      have c := ih b (Nat.succ.inj hl)
      rwa [List.length_append, List.append_assoc] at c

theorem loadFrames_stores {h : Heap} (s : Sep h) (vs : List Frame) : Stores (h.loadFrames vs) vs := by
  have a : Stores ({ h with stored := [] } : Heap) [] := ⟨s.withStored [] List.nodup_nil List.nodup_nil (by simp), rfl⟩
  exact fillFrom_stores (pre := []) (growBy_stores a vs.length) vs (by simp)

/-- the loader keeps separation: every slot of a loaded object owns its cells -/
theorem loadFrames_sep {h : Heap} (s : Sep h) (vs : List Frame) : Sep (h.loadFrames vs) := (loadFrames_stores s vs).sep

/-- the loaded object stores the values read from the file -/
theorem loadFrames_view {h : Heap} (s : Sep h) (vs : List Frame) : (h.loadFrames vs).view = vs := (loadFrames_stores s vs).view

inductive OpL where
  | op (o : Op)
  | load (vs : List Frame)        -- `c3d c(path)`: a new object built by the loader; the caller's frames live on

def stepL (h : Heap) : OpL → Heap
  | .op o => step h o
  | .load vs => h.loadFrames vs

/-- separation in every reachable state of every history of caller operations, object operations and loads -/
theorem reach_sepL (ops : List OpL) : Sep (ops.foldl stepL {}) :=
  List.foldlRecOn ops stepL Sep.init fun h s o _ => by
    cases o with
    | op o => exact step_sep s o
    | load vs => exact loadFrames_sep s vs

/-- after a load, adding one point to the data set adds it exactly once to every frame (`pointCols_stores` needs `Sep`, which the
    loader establishes) -/
theorem load_then_pointCols (ops : List OpL) (vs : List Frame) (cols : List (List Point)) (hl : cols.length = vs.length) :
    (((ops.foldl stepL {}).loadFrames vs).pointCols cols).view
      = List.zipWith (fun (f : Frame) ps => { f with pts := f.pts ++ ps }) vs cols :=
  (pointCols_stores (loadFrames_stores (reach_sepL ops) vs) cols hl).view

/-- non-vacuity: a file with two point-less frames is loaded while the caller holds a frame; a point column then lands once in
    each frame -/
example : ((([OpL.op (.mk { pts := [pt1] }), .load [{}, {}], .op (.pcols [[pt1], [pt1]])] : List OpL).foldl stepL {}).view)
    = [{ pts := [pt1] }, { pts := [pt1] }] := by decide

end Ezc3d.C08
