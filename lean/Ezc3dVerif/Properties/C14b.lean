import Ezc3dVerif.Properties.C14
import Ezc3dVerif.Proofs.WriteCongr
/-
  C14 (continued) — every byte of a saved file is determined by the OBSERVABLE content of the object. A C++ `Parameter` keeps
  three value vectors side by side (integers, floats, strings); only the one its type selects is observable through the API, the
  other two may hold anything a previous `set` left behind. The writer never looks at them: two objects whose parameters agree
  on name, description, lock flag, type, dimensions and the SELECTED vector produce the same bytes.
-/
namespace Ezc3d.C14
open N

/-- same observable content -/
def Param.Same (p q : Param) : Prop :=
  p.name = q.name ∧ p.desc = q.desc ∧ p.locked = q.locked ∧ p.type = q.type ∧ p.dims = q.dims ∧
  (match p.type with
   | .char => p.strs = q.strs
   | .byte | .int => p.ints = q.ints
   | .float => p.floats = q.floats
   | .none => True)

theorem Param.write_same (p q : Param) (h : Param.Same p q) (gid : Int) (ip : Bool) : p.write gid ip = q.write gid ip :=
  -- the last three clauses of `Same` are `Param.SameValues`
  Param.write_congr h.2.2.2 (by rw [h.1]) (by rw [h.1]) h.2.1 h.2.2.1 gid ip

def Group.Same (g k : Group) : Prop :=
  g.name = k.name ∧ g.desc = k.desc ∧ g.locked = k.locked ∧ All2 Param.Same g.params k.params

theorem Group.write_same (g k : Group) (h : Group.Same g k) (i : Nat) : g.write i = k.write i := by
  obtain ⟨hn, hd, hl, hp⟩ := h
  unfold Group.write
  rw [writeParamList_congr _ _ (hp.imp fun p q hpq => Param.write_same p q hpq _ _), ← hn, ← hd, ← hl]

/-- EVERY BYTE OF A SAVED FILE IS DETERMINED BY THE OBSERVABLE CONTENT: objects with the same header, prologue start byte and
    frames whose groups and parameters have the same observable content save to the same bytes — whatever the unselected value
    vectors of their parameters hold -/
theorem save_depends_on_observable_content (s t : C3D) (hh : s.hdr = t.hdr) (hp : s.ph.start = t.ph.start) (hf : s.frames = t.frames)
    (hg : All2 Group.Same s.groups t.groups) : s.write = t.write :=
  C3D.write_congr (fun _ => by rw [hh]) hp (hg.imp fun g k hgk => ⟨by rw [hgk.1], Group.write_same g k hgk⟩) (by rw [hf])

/-- non-vacuity: a float parameter that still carries the integers and strings of earlier `set` calls saves like a clean one -/
example : ({ groups := [{ name := POINT, params := [{ name := RATE, type := .float, dims := [1], floats := [0x42C80000], ints := [1, 2, 3], strs := [[65]] }] }] } : C3D).write
    = ({ groups := [{ name := POINT, params := [{ name := RATE, type := .float, dims := [1], floats := [0x42C80000] }] }] } : C3D).write :=
  save_depends_on_observable_content _ _ rfl rfl rfl
    (All2.cons ⟨rfl, rfl, rfl, All2.cons ⟨rfl, rfl, rfl, rfl, rfl, rfl⟩ All2.nil⟩ All2.nil)

end Ezc3d.C14
