import Ezc3dVerif.Properties.C07
import Ezc3dVerif.Proofs.Mand
/-
  C07 (continued) — "a frame that matches the declared names, counts, rates and sub-frame ratio is always accepted" in the state
  where no point is declared yet (POINT:USED = 0, no label): the frame brings its own points, and is accepted whenever the
  rates it needs are set and its channels match the declared ones.
-/
namespace Ezc3d.C07
open N

theorem frame_accepts_own_points (F : FloatOps) (s : C3D) (f : Frame) (idx : Nat) (hM : Mand s.groups)
    (used aused : Int) (prate arate : UInt32)
    (hu : int0 s.groups POINT USED = .ok used) (hu0 : intToU64 used = 0) (hl : strsOf s.groups POINT LABELS = .ok [])
    (hpr : float0 s.groups POINT RATE = .ok prate) (har : float0 s.groups ANALOG RATE = .ok arate)
    (hau : int0 s.groups ANALOG USED = .ok aused)
    (hprz : f.pts.length > 0 → isZeroF prate = false) (harz : f.subs.length > 0 → isZeroF arate = false)
    (hch : chanMismatch f (intToU64 aused) s.hdr.nbAnalogByFrame = false)
    (hidx : idx = SIZE_MAX ∨ idx + 1 ≤ maxFrames) :
    ∃ s', s.frame F f idx = .ok s' :=
  frame_accepts_of F s f hM hu (.inl hu0) hl rfl (fun h => ⟨_, hpr, hprz h⟩) (fun h => ⟨_, har, harz h⟩) hau hch
    (by simp [outOfOrder]) hidx

end Ezc3d.C07
