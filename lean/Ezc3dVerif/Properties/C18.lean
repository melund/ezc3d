import Ezc3dVerif.Model.Api
/-
  C18 — independent objects can be used from different threads (the part that is logic).
  The model's state is per object and `step` reads nothing else, so every interleaving of two threads' operation sequences
  gives each object the outcomes and final state of its own sequential run. The hypothesis "the library has no shared
  mutable state" is what makes the per-object model adequate; the check discharges it on every run by scanning the symbols
  of the objects compiled from the current tree, and ThreadSanitizer runs look for what a model cannot show.
-/
namespace Ezc3d.C18

def after (s : C3D) : Outcome C3D → C3D
  | .ok s' => s'
  | .throw _ l => l
  | .ub _ => s

/-- sequential run: every outcome observed, and the final state. Each call runs from `after` of the previous one: from `left`
    after a throw (as `C13.runOps`, unlike `C05.runOk`), and — unlike both — the run goes on after a `ub`, from the state before it -/
def run (F : FloatOps) (s : C3D) : List Op → List (Outcome C3D) × C3D
  | [] => ([], s)
  | op :: rest =>
    let o := step F s op
    let (os, s') := run F (after s o) rest
    (o :: os, s')

/-- a schedule: which thread performs its next operation -/
inductive Who | A | B
  deriving DecidableEq

def runSched (F : FloatOps) : C3D → C3D → List Op → List Op → List Who →
    (List (Outcome C3D) × C3D) × (List (Outcome C3D) × C3D)
  | sA, sB, _, _, [] => (([], sA), ([], sB))
  | sA, sB, opsA, opsB, .A :: sched =>
    match opsA with
    | [] => runSched F sA sB [] opsB sched
    | op :: restA =>
      let o := step F sA op
      let ((osA, fA), rB) := runSched F (after sA o) sB restA opsB sched
      ((o :: osA, fA), rB)
  | sA, sB, opsA, opsB, .B :: sched =>
    match opsB with
    | [] => runSched F sA sB opsA [] sched
    | op :: restB =>
      let o := step F sB op
      let (rA, (osB, fB)) := runSched F sA (after sB o) opsA restB sched
      (rA, (o :: osB, fB))

/-- the schedule lets each thread perform all its operations -/
def Complete : List Op → List Op → List Who → Prop
  | [], [], _ => True
  | _ :: _, _, [] => False
  | [], _ :: _, [] => False
  | opsA, opsB, .A :: sched => match opsA with
    | [] => Complete [] opsB sched
    | _ :: restA => Complete restA opsB sched
  | opsA, opsB, .B :: sched => match opsB with
    | [] => Complete opsA [] sched
    | _ :: restB => Complete opsA restB sched

/-- every interleaving: each thread observes exactly the outcomes, and its object ends in exactly the
    state, of its own sequential run -/
theorem interleaving_independent (F : FloatOps) :
    ∀ (sched : List Who) (sA sB : C3D) (opsA opsB : List Op), Complete opsA opsB sched →
      runSched F sA sB opsA opsB sched = (run F sA opsA, run F sB opsB) := by
  intro sched
  induction sched with
  | nil =>
    intro sA sB opsA opsB hc
    cases opsA with
    | nil =>
      cases opsB with
      | nil => simp [runSched, run]
      | cons b t => simp [Complete] at hc
    | cons a t => simp [Complete] at hc
  | cons w sched ih =>
    intro sA sB opsA opsB hc
    cases w with
    | A =>
      cases opsA with
      | nil =>
        have hc' : Complete [] opsB sched := by
          cases opsB <;> simp [Complete] at hc ⊢ <;> exact hc
        simp only [runSched]
        rw [ih sA sB [] opsB hc']
      | cons op restA =>
        have hc' : Complete restA opsB sched := by simpa [Complete] using hc
        simp only [runSched, run]
        rw [ih (after sA (step F sA op)) sB restA opsB hc']
    | B =>
      cases opsB with
      | nil =>
        have hc' : Complete opsA [] sched := by
          cases opsA <;> simp [Complete] at hc ⊢ <;> exact hc
        simp only [runSched]
        rw [ih sA sB opsA [] hc']
      | cons op restB =>
        have hc' : Complete opsA restB sched := by
          cases opsA <;> simp [Complete] at hc ⊢ <;> exact hc
        simp only [runSched, run]
        rw [ih sA (after sB (step F sB op)) opsA restB hc']

/-- in particular two different schedules agree with each other -/
theorem schedules_agree (F : FloatOps) (s1 s2 : List Who) (sA sB : C3D) (opsA opsB : List Op)
    (h1 : Complete opsA opsB s1) (h2 : Complete opsA opsB s2) :
    runSched F sA sB opsA opsB s1 = runSched F sA sB opsA opsB s2 := by
  rw [interleaving_independent F s1 sA sB opsA opsB h1, interleaving_independent F s2 sA sB opsA opsB h2]

/-- non-vacuity: a complete schedule of a 2+1 operation history -/
example : Complete [.point [97], .lockGroup N.POINT] [.analog [98]] [.A, .B, .A] := by simp [Complete]

end Ezc3d.C18
