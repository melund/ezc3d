import Ezc3dVerif.Proofs.Guarded
import Ezc3dVerif.Proofs.InsertLookup
import Ezc3dVerif.Proofs.Updaters
/-
  C09 (continued) — `c3d::parameter(group, p)` at the level of the whole object, seen through its look-ups.
-/
namespace Ezc3d.C09
open N

/-- after a successful `c3d::parameter(group, p)` the parameter is found under (group, p.name) with everything it was given;
    every other (group, name) look-up gives what it gave before (or fails as before); no frame changes -/
theorem parameter_changes_exactly (F : FloatOps) (s s' : C3D) (g : Bytes) (p : Param) (h : s.parameter F g p = .ok s') :
    getParam s'.groups g p.name = .ok p ∧
    (∀ g1 p1, ¬ (g1 = g ∧ p1 = p.name) → getParam s'.groups g1 p1 = getParam s.groups g1 p1) ∧
    s'.frames = s.frames := by
  obtain ⟨gs', hins, he⟩ := (parameter_guarded F s g p).of_ok h
  obtain ⟨hd, rfl, _⟩ := (updateHeader_walk F _).post _ (he ▸ h)
  exact ⟨by rw [getParam_insertParam hins, if_pos ⟨rfl, rfl⟩], fun g1 p1 hne => by rw [getParam_insertParam hins, if_neg hne], rfl⟩

end Ezc3d.C09
