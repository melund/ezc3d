import Ezc3dVerif.Properties.C02b
import Ezc3dVerif.Proofs.Assemble
/-
  C02 (continued) — the loaded group table as a function of the independent decoder's output alone. `Spec.assemble`
  (Spec/Assemble.lean) presents the decoder's flat record lists declaratively — header of a group id = its last group
  record, parameters = one per name in order of first appearance, each with the content of the last record of that name —
  and the loader's table (`rs.foldl applyRec []` in `both_decoders_layout`), viewed group by group, is that presentation.
-/
namespace Ezc3d.C02
open N Spec

/-- looking a name up in the presented parameters of a group finds the LAST record of that name and id -/
theorem paramsOf_lookup (ps : List SParam) (g : Nat) (n : Bytes) :
    (paramsOf ps g).find? (fun x => x.name == n) = lastNamed (ps.filter (fun p => p.gid == g)) n := by
  -- both sides as left folds over the records of id `g`: the list built by `putS`, and the last record named `n` (`some p` at
  -- a record named `n`, else what was found before); `find?` relates the two step by step (`find?_upsert`)
  rw [paramsOf_eq_fold, ← foldl_eq_of_snoc (f := fun o (p : SParam) => if p.name = n then some p else o) (D := (lastNamed · n))
    (fun l p => lastNamed_append_one l p n) (ps.filter (fun p => p.gid == g)) rfl]
  exact List.foldl_rel (r := fun (acc : List SParam) o => acc.find? (fun x => x.name == n) = o) rfl
    fun p _ acc o h => by rw [putS_eq, find?_upsert, h]

/-- no name is presented twice -/
theorem paramsOf_nodup (ps : List SParam) (g : Nat) : ((paramsOf ps g).map (·.name)).Nodup := by
  rw [paramsOf_eq_presented, presented_names]
  exact firstOcc_nodup _

/-- the table has one entry per id from 1 to the largest id any record carries … -/
theorem assemble_length (gs : List SGroup) (ps : List SParam) : (Spec.assemble gs ps).length = maxId gs ps := by
  simp [Spec.assemble]

/-- … and an id that NO record carries is presented as a blank, unlocked, parameter-less placeholder -/
theorem assemble_placeholder (gs : List SGroup) (ps : List SParam) (i : Nat) (hi : i < maxId gs ps)
    (hg : ∀ r ∈ gs, r.gid ≠ i + 1) (hp : ∀ q ∈ ps, q.gid ≠ i + 1) :
    (Spec.assemble gs ps)[i]? = some {} := by
  unfold Spec.assemble
  rw [List.getElem?_map, List.getElem?_range hi]
  have h1 : gs.filter (fun r => r.gid == i + 1) = [] := by
    rw [List.filter_eq_nil_iff]; intro r hr; simpa using hg r hr
  have h2 : ps.filter (fun q => q.gid == i + 1) = [] := by
    rw [List.filter_eq_nil_iff]; intro q hq; simpa using hp q hq
  simp only [Option.map_some, headerOf, paramsOf, h1, h2, List.getLast?_nil, List.map_nil, firstOcc, List.filterMap_nil]

/-- A LOOK-UP BY (group name, parameter name) IN THE LOADED TABLE FINDS WHAT `Spec.lookup` FINDS IN THE FILE'S RECORDS: the first
    group (lowest id) carrying the group name, and in it the LAST record of the parameter name; it throws exactly when the
    records hold no such pair; it is never undefined -/
theorem table_lookup (rs : List Rec) (g p : Bytes) :
    (match getParam (rs.foldl applyRec []) g p with
     | .ok q => ∃ i, Spec.lookup (specGroupsR rs) (specParamsR rs) g p = some (specParam i q)
     | .throw _ => Spec.lookup (specGroupsR rs) (specParamsR rs) g p = none
     | .ub _ => False) := by
  have hidx : (Spec.assemble (specGroupsR rs) (specParamsR rs)).findIdx? (fun a => a.name == g)
      = (rs.foldl applyRec []).findIdx? (fun x => x.name == g) :=
    findIdx?_eq_of_map_eq (List.ext_getElem? fun k => by
      rw [← table_eq_assemble, List.getElem?_map, List.getElem?_mapIdx, List.getElem?_map]
      cases (rs.foldl applyRec [])[k]? <;> rfl)
  rw [getParam_eq_find, List.find?_eq_bind_findIdx?_getElem?]
  unfold Spec.lookup
  rw [hidx]
  cases hi : (rs.foldl applyRec []).findIdx? (fun x => x.name == g) with
  | none => rfl
  | some i =>
    have hlt := (List.findIdx?_eq_some_iff_getElem.mp hi).1
    obtain ⟨hup, hview⟩ := table_getElem rs i hlt
    have hfind : ((rs.foldl applyRec [])[i].params.find? (fun a => a.name == p)).map (specParam i)
        = lastNamed ((specParamsR rs).filter (fun q => q.gid == i + 1)) p := by
      rw [← paramsOf_lookup, ← show _ = paramsOf (specParamsR rs) (i + 1) from congrArg AGroup.params hview, viewG, List.find?_map]
      -- `specParam i` upper-cases the name, so the test for `p` goes through it only on the upper-case names `table_getElem` gives
      -- (`hup`); core has no `find?_congr`, hence the detour by `head?_filter`
      have hc : ∀ x ∈ (rs.foldl applyRec [])[i].params, ((fun a : SParam => a.name == p) ∘ specParam i) x = (x.name == p) :=
        fun x hx => by simp only [Function.comp, specParam, hup x hx]
      rw [← List.head?_filter, ← List.head?_filter, List.filter_congr hc]
    simp only [Option.bind_some, List.getElem?_eq_getElem hlt, byName_eq_find]
    cases hf : (rs.foldl applyRec [])[i].params.find? (fun a => a.name == p) with
    | none => rw [hf] at hfind; exact hfind.symm
    | some q => rw [hf] at hfind; exact ⟨i, hfind.symm⟩

/-- THE LOADED GROUP TABLE IS THE PRESENTATION OF WHAT THE INDEPENDENT DECODER EXTRACTS FROM THE SAME BYTES -/
theorem loaded_table_is_assembled (F : FloatOps) (h : Header) (Z pa ds nb : Nat) (zp : Bool) (gap pad : Bytes) (rs : List Rec) (frames : List Frame)
    (pl al : List Bytes) (hy : LayoutHyps F h Z pa ds nb gap pad rs frames pl al) (hdsv : ds = pa + nb)
    (hne : ¬ (h.nbPoints = 0 ∧ h.nbAnalogs = 0)) :
    ∃ (obj : C3D) (content : Spec.Content),
      C3D.load F (List.replicate Z 0 ++ h.bytesP pa ds [] ++ gap ++ ((if zp then 0 else low8N 1) :: (if zp then 0 else 0x50) :: low8N nb :: 84 ::
          (recsBytes rs ++ 0 :: pad)) ++ writeData frames) = .ok obj ∧
      Spec.decode (List.replicate Z 0 ++ h.bytesP pa ds [] ++ gap ++ ((if zp then 0 else low8N 1) :: (if zp then 0 else 0x50) :: low8N nb :: 84 ::
          (recsBytes rs ++ 0 :: pad)) ++ writeData frames) true = some content ∧
      obj.groups.mapIdx viewG = Spec.assemble content.groups content.params ∧
      obj.frames.map specFrame = content.frames ∧
      specHeaderP obj.hdr obj.hdr.paramAddr obj.hdr.dataStart = content.header := by
  obtain ⟨obj, content, a, b, c, d, e, f, g, _⟩ := both_decoders_layout F h Z pa ds nb zp gap pad rs frames pl al hy hdsv hne
  refine ⟨obj, content, a, b, ?_, f, g⟩
  rw [c, d, e]
  exact table_eq_assemble rs

/-- … and every look-up by names in the loaded object returns what `Spec.lookup` finds in the decoder's output for the same bytes -/
theorem loaded_lookup (F : FloatOps) (h : Header) (Z pa ds nb : Nat) (zp : Bool) (gap pad : Bytes) (rs : List Rec) (frames : List Frame)
    (pl al : List Bytes) (hy : LayoutHyps F h Z pa ds nb gap pad rs frames pl al) (hdsv : ds = pa + nb)
    (hne : ¬ (h.nbPoints = 0 ∧ h.nbAnalogs = 0)) (g p : Bytes) :
    ∃ (obj : C3D) (content : Spec.Content),
      C3D.load F (List.replicate Z 0 ++ h.bytesP pa ds [] ++ gap ++ ((if zp then 0 else low8N 1) :: (if zp then 0 else 0x50) :: low8N nb :: 84 ::
          (recsBytes rs ++ 0 :: pad)) ++ writeData frames) = .ok obj ∧
      Spec.decode (List.replicate Z 0 ++ h.bytesP pa ds [] ++ gap ++ ((if zp then 0 else low8N 1) :: (if zp then 0 else 0x50) :: low8N nb :: 84 ::
          (recsBytes rs ++ 0 :: pad)) ++ writeData frames) true = some content ∧
      (match getParam obj.groups g p with
       | .ok q => ∃ i, Spec.lookup content.groups content.params g p = some (specParam i q)
       | .throw _ => Spec.lookup content.groups content.params g p = none
       | .ub _ => False) := by
  obtain ⟨obj, content, a, b, c, d, e, _⟩ := both_decoders_layout F h Z pa ds nb zp gap pad rs frames pl al hy hdsv hne
  refine ⟨obj, content, a, b, ?_⟩
  rw [c, d, e]
  exact table_lookup rs g p

example :
    Spec.lookup
      [{ gid := 3, name := [65], locked := false, desc := [100] }, { gid := 1, name := [65], locked := true, desc := [] }]
      [{ gid := 1, name := [88], locked := false, dims := [], data := .ints [1], desc := [] },
       { gid := 3, name := [88], locked := false, dims := [], data := .ints [2], desc := [] },
       { gid := 1, name := [88], locked := true, dims := [], data := .ints [4], desc := [] }] [65] [88]
    = some { gid := 1, name := [88], locked := true, dims := [], data := .ints [4], desc := [] } := by decide

/-- records out of order, an id gap, a repeated name, a parameter ahead of its group's record, a group record without
    description after one with: the presentation a reader expects -/
example :
    Spec.assemble
      [{ gid := 3, name := [66], locked := false, desc := [100] }, { gid := 1, name := [65], locked := true, desc := [] },
       { gid := 3, name := [67], locked := false, desc := [] }]
      [{ gid := 1, name := [88], locked := false, dims := [], data := .ints [1], desc := [] },
       { gid := 3, name := [89], locked := false, dims := [], data := .ints [2], desc := [] },
       { gid := 1, name := [90], locked := false, dims := [], data := .ints [3], desc := [] },
       { gid := 1, name := [88], locked := true, dims := [], data := .ints [4], desc := [] }]
    = [{ name := [65], locked := true, desc := [],
         params := [{ gid := 1, name := [88], locked := true, dims := [], data := .ints [4], desc := [] },
                    { gid := 1, name := [90], locked := false, dims := [], data := .ints [3], desc := [] }] },
       {},
       { name := [67], locked := false, desc := [100],
         params := [{ gid := 3, name := [89], locked := false, dims := [], data := .ints [2], desc := [] }] }] := by decide

example : ∃ obj content, C3D.load F1 (List.replicate 3 0 ++ h1.bytesP 3 4 [] ++ List.replicate 512 0 ++
      ((if true then 0 else low8N 1) :: (if true then 0 else 0x50) :: low8N 1 :: 84 :: (recsBytes rs1 ++ 0 :: pad1)) ++ writeData frames1) = .ok obj ∧
    Spec.decode (List.replicate 3 0 ++ h1.bytesP 3 4 [] ++ List.replicate 512 0 ++
      ((if true then 0 else low8N 1) :: (if true then 0 else 0x50) :: low8N 1 :: 84 :: (recsBytes rs1 ++ 0 :: pad1)) ++ writeData frames1) true = some content ∧
    obj.groups.mapIdx viewG = Spec.assemble content.groups content.params := by
  obtain ⟨obj, content, a, b, c, _⟩ := loaded_table_is_assembled F1 h1 3 3 4 1 true (List.replicate 512 0) pad1 rs1 frames1 [[76, 49]] []
    layout_example4 rfl (by decide)
  exact ⟨obj, content, a, b, c⟩

end Ezc3d.C02
