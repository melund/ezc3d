import Ezc3dVerif.Proofs.Updaters
import Ezc3dVerif.Proofs.Guarded
/-
  C10 — a refused call leaves the object unchanged.
  A throwing call returns `Outcome.throw e left`, where `left` is the state the object is in when the exception escapes; the
  theorems say `left = s`. Domain: `Mand s.groups`, the mandatory POINT/ANALOG parameters present with their types, DESCRIPTIONS
  and UNITS included (a file without these two loads to an object outside `Mand`: C10b); true of every new object
  (`C05.init_Mand`) and preserved by every call below (`C05.step_preserves_Mand`).
-/
namespace Ezc3d.C10
open N

theorem setGroupLock_refused_unchanged (s : C3D) (name : Bytes) (v : Bool) (e : Exc) (l : C3D)
    (h : s.setGroupLock name v = .throw e l) : l = s :=
  (setGroupLock_guarded s name v).unchanged (fun _ ⟨_, _, e⟩ => ⟨_, e⟩) h

/-- unnamed or untyped parameter: refused before anything (even the group) is created.
    A typed, named parameter is stored; the call can then only throw from the header update, and it
    does not when the parameter tree after the edit still has its mandatory parameters. -/
theorem parameter_refused_unchanged (F : FloatOps) (s : C3D) (g : Bytes) (p : Param)
    (hAfter : ∀ gs', insertParam s.groups g p = .ok gs' → Mand gs')
    (e : Exc) (l : C3D) (h : s.parameter F g p = .throw e l) : l = s :=
  (parameter_guarded F s g p).unchanged (fun _ ⟨gs', hgs, e⟩ => e ▸ (updateHeader_walk F _).completes (hAfter gs' hgs)) h

/-- past the guards of a frame / point / channel mutator lies the point of no return: there the updaters complete when the
    mandatory parameters are in place -/
theorem updateParameters_declared_completes (F : FloatOps) (s : C3D) {op : Op} (hM : Mand s.groups) {fr : List Frame} {np na : List Bytes}
    (hd : Declares op fr np na) : ∃ x, updateParameters F { s with frames := fr } np na = .ok x := by
  obtain ⟨g, hd', hok, _⟩ := updateParameters_ok_of_Mand F (s := { s with frames := fr }) hM np na (by
    rintro ⟨h0, h1⟩
    rw [hd.noFrames (h1.imp List.ne_nil_of_length_pos List.ne_nil_of_length_pos)] at h0
    exact h0 rfl)
  exact ⟨_, hok⟩

def F0 : FloatOps := { rateKey := fun _ => 0, truncNat := fun _ => 0, ratioNat := fun _ _ => 0 }
/-- the excluded region is real: replacing POINT:USED by a float parameter is accepted by the tree
    edit, then the header update throws and the replacement stays (recorded as a known finding) -/
theorem parameter_partial_state_witness :
    ∃ e l, C3D.init.parameter F0 POINT { name := USED, type := .float, floats := [0] } = .throw e l ∧ l ≠ C3D.init := by
  refine ⟨.invalid_argument, _, rfl, ?_⟩
  decide

theorem step_refused_unchanged (F : FloatOps) (s : C3D) (op : Op) (hM : Mand s.groups)
    (hP : ∀ g p, op = .parameter g p → ∀ gs', insertParam s.groups g p = .ok gs' → Mand gs')
    (e : Exc) (l : C3D) (h : step F s op = .throw e l) : l = s := by
  refine (step_guarded F s op).unchanged (fun _ ho => ?_) h
  cases ho with
  | parameter g p gs' hop hins ho =>
    exact ho ▸ (updateHeader_walk F _).completes (hP g p hop gs' hins)
  | lock _ _ _ _ _ ho => exact ⟨_, ho⟩
  | data _ _ _ hd ho => exact ho ▸ updateParameters_declared_completes F s hM hd

end Ezc3d.C10
