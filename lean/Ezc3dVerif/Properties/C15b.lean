import Ezc3dVerif.Properties.C15
/-
  C15 (continued) — every fault schedule, transient faults included. `C3D.saveTo` fixes one shape of fault (the destination
  accepts `budget` bytes, then refuses for ever). Here the operating system answers each write call the save issues - the
  flushes forced by the seeks of the back-patches, by a full buffer, by close() - with accept or refuse according to an
  arbitrary schedule. The stream's failure state is sticky (libstdc++: once badbit is set every later write is a no-op and
  no further call is issued; `c3d::write` never clears it), and `c3d::write` throws when the stream has failed after close().
-/
namespace Ezc3d.C15

/-- the output stream as `c3d::write` sees it -/
structure OStream where
  bad : Bool := false      -- badbit | failbit, sticky
  calls : Nat := 0         -- write calls issued to the OS so far

def OStream.flush (st : OStream) (refuse : Nat → Bool) : OStream :=
  if st.bad then st else { bad := refuse st.calls, calls := st.calls + 1 }

def OStream.flushes (st : OStream) (refuse : Nat → Bool) : Nat → OStream
  | 0 => st
  | n + 1 => (st.flush refuse).flushes refuse n

/-- a save that needs `n` flushes before close(); close() is one more; normal return iff the stream has not failed -/
def saveSched (n : Nat) (refuse : Nat → Bool) : Bool := !(({} : OStream).flushes refuse (n + 1)).bad

theorem flushes_bad (refuse : Nat → Bool) : ∀ (n : Nat) (st : OStream), st.bad = true → (st.flushes refuse n).bad = true
  | 0, _, hb => hb
  | n + 1, st, hb => flushes_bad refuse n _ (by rw [OStream.flush, if_pos hb]; exact hb)

theorem flushes_ok_iff (refuse : Nat → Bool) : ∀ (n : Nat) (st : OStream), st.bad = false →
    ((st.flushes refuse n).bad = false ↔ ∀ i, i < n → refuse (st.calls + i) = false)
  | 0, st, hb => ⟨fun _ _ hi => absurd hi (Nat.not_lt_zero _), fun _ => hb⟩
  | n + 1, st, hb => by
    rw [OStream.flushes, OStream.flush, if_neg (by simp [hb]), Nat.forall_lt_succ_left, Nat.add_zero]
    cases hr : refuse st.calls with
    | true => simp [flushes_bad refuse n ⟨true, st.calls + 1⟩ rfl]
    | false =>
      rw [flushes_ok_iff refuse n ⟨false, st.calls + 1⟩ rfl]
      simp only [true_and, Nat.add_assoc, Nat.add_comm 1]

/-- FOR EVERY FAULT SCHEDULE: the save returns normally exactly when none of the write calls it issues - the last one is
    close() - is refused -/
theorem saveSched_ok_iff (n : Nat) (refuse : Nat → Bool) : saveSched n refuse = true ↔ ∀ i, i ≤ n → refuse i = false := by
  rw [saveSched, Bool.not_eq_true', flushes_ok_iff refuse (n + 1) {} rfl]
  simp only [Nat.zero_add, Nat.lt_succ_iff]

/-- a TRANSIENT fault - one call refused, every other call accepted - is reported -/
theorem transient_fault_reported (n k : Nat) (hk : k ≤ n) : saveSched n (fun i => i == k) = false := by
  cases h : saveSched n (fun i => i == k) with
  | false => rfl
  | true => have := (saveSched_ok_iff n _).mp h k hk; simp at this

/-- non-vacuity: with no refusal the save succeeds; with every call from the fourth on refused (a destination that stops
    accepting, the shape of fault `saveTo` fixes; the two models are not related by a theorem) it does not -/
example : saveSched 5 (fun _ => false) = true := by decide
example : saveSched 5 (fun i => decide (3 ≤ i)) = false := by decide

end Ezc3d.C15
