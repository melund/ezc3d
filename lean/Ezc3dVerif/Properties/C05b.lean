import Ezc3dVerif.Properties.C05
import Ezc3dVerif.Proofs.Lookup
import Ezc3dVerif.Proofs.Mand
import Ezc3dVerif.Proofs.Guarded
import Ezc3dVerif.Proofs.Post
import Ezc3dVerif.Proofs.InsertLookup
/-
  C05 (continued) — the agreement is an invariant of every history from a new object (`reach_Inv`), as long as no `parameter()`
  call overwrites one of the three count parameters (POINT:USED, POINT:FRAMES, ANALOG:USED: the recorded finding), the mandatory
  parameters stay in place and sizes stay within the `int` range (`HistOK`).
-/
namespace Ezc3d.C05
open N

/-- the agreement plus the range fact that keeps the library's products from wrapping -/
structure Inv (F : FloatOps) (s : C3D) : Prop where
  agree : Agree F s
  ausmall : ∀ au, int0 s.groups ANALOG USED = .ok au → intToU64 au < two31

theorem lock_Inv (F : FloatOps) (s : C3D) (gi : Nat) (v : Bool) (hI : Inv F s) :
    Inv F { s with groups := s.groups.modify gi fun x => { x with locked := v } } := by
  have hi0 : ∀ g p, int0 (s.groups.modify gi fun x => { x with locked := v }) g p = int0 s.groups g p :=
    fun g p => int0_congr (getParam_lock s.groups gi v g p)
  -- every field reads the tree through `int0` / `float0` only
  have hA := hI.agree
  exact {
    agree := {
      hp := { points := hi0 POINT USED ▸ hA.hp.points
              rate := float0_congr (getParam_lock s.groups gi v POINT RATE) ▸ hA.hp.rate
              analogs := hi0 ANALOG USED ▸ hA.hp.analogs
              nframes := hi0 POINT FRAMES ▸ hA.hp.nframes
              subs := hA.hp.subs }
      exact := hA.exact
      nframes := hi0 POINT FRAMES ▸ hA.nframes
      used := hi0 POINT USED ▸ hA.used
      aused := hi0 ANALOG USED ▸ hA.aused }
    ausmall := hi0 ANALOG USED ▸ hI.ausmall }

theorem parameter_Inv (F : FloatOps) (s s' : C3D) (g : Bytes) (p : Param) (gs' : List Group) (hI : Inv F s)
    (hF : ∀ a b, F.ratioNat a b < two32)
    (hsub : ∀ f0 t, s.frames = f0 :: t → f0.subs.length < two32)
    (hins : insertParam s.groups g p = .ok gs') (hM : Mand gs')
    (hc1 : ¬ (g = POINT ∧ p.name = USED)) (hc2 : ¬ (g = POINT ∧ p.name = FRAMES)) (hc3 : ¬ (g = ANALOG ∧ p.name = USED))
    (h : updateHeader F { s with groups := gs' } = .ok s') : Inv F s' := by
  obtain ⟨hd', rfl, hH⟩ := (updateHeader_walk F _).post _ h
  have hkeep : ∀ G P, ¬ (g = G ∧ p.name = P) → int0 gs' G P = int0 s.groups G P := fun G P hc =>
    int0_congr (getParam_insertParam_other s.groups gs' g p G P hins fun ⟨a, b⟩ => hc ⟨a.symm, b.symm⟩)
  have hPU := hkeep POINT USED hc1
  have hPF := hkeep POINT FRAMES hc2
  have hAU := hkeep ANALOG USED hc3
  obtain ⟨_, ga, _, hga, hgan⟩ := hM.group mem_slots_AU
  obtain ⟨hp, hinv⟩ := hH.agree hI.agree.exact hF hsub (by intro au hau; rw [hAU] at hau; exact hI.ausmall au hau)
    (by intro ga' hga'; rw [hga] at hga'; cases hga'; exact hgan)
  refine ⟨⟨hp, hinv, ?_, ?_, ?_⟩, ?_⟩
  · simp only [hPF]; exact hI.agree.nframes
  · simp only [hPU]; exact hI.agree.used
  · simp only [hAU]; exact hI.agree.aused
  · simp only [hAU]; exact hI.ausmall

/-- a new object agrees: every count is 0 and there is no frame -/
theorem init_Inv (F : FloatOps) : Inv F C3D.init := by
  have hau0 : int0 C3D.init.groups ANALOG USED = .ok 0 := by decide
  exact {
    agree := {
      hp := { points := ⟨0, by decide, rfl⟩, rate := ⟨0, by decide, rfl⟩, analogs := fun h => absurd rfl h,
              nframes := fun h => absurd ⟨rfl, rfl⟩ h, subs := fun _ _ h => nomatch h }
      exact := init_HdrInv
      nframes := ⟨0, by decide, rfl⟩
      used := fun _ _ h => nomatch h
      aused := fun _ _ _ _ h => nomatch h }
    ausmall := fun au hau => by cases hau0.symm.trans hau; decide }

/-- what a history has to respect for the invariant to be carried along: the mandatory parameters stay, the three count
    parameters are not overwritten by hand, sizes stay within the `int` range -/
def StepOK (F : FloatOps) (s : C3D) (op : Op) (s' : C3D) : Prop :=
  (∀ g p, op = .parameter g p →
      (∀ gs', insertParam s.groups g p = .ok gs' → Mand gs') ∧
      ¬ (g = POINT ∧ p.name = USED) ∧ ¬ (g = POINT ∧ p.name = FRAMES) ∧ ¬ (g = ANALOG ∧ p.name = USED) ∧
      (∀ f0 t, s.frames = f0 :: t → f0.subs.length < two32)) ∧
  (∀ ol oa np na, strsOf s.groups POINT LABELS = .ok ol → strsOf s.groups ANALOG LABELS = .ok oa →
      (np = [] ∨ ∃ n, op = .point n ∧ np = [rtrim n]) → (na = [] ∨ ∃ n, op = .analog n ∧ na = [rtrim n]) → Small s'.frames ol oa np na)

theorem step_Inv (F : FloatOps) (s s' : C3D) (op : Op) (hI : Inv F s) (hM : Mand s.groups) (hF : ∀ a b, F.ratioNat a b < two32)
    (hok : StepOK F s op s') (h : step F s op = .ok s') : Inv F s' := by
  cases (step_guarded F s op).of_ok h with
  | parameter g p gs' hop hins ho =>
    obtain ⟨hMand, hPU, hPF, hAU, hsub⟩ := hok.1 g p hop
    exact parameter_Inv F s s' g p gs' hI hF hsub hins (hMand gs' hins) hPU hPF hAU (ho ▸ h)
  | lock _ v gi _ _ ho =>
    cases ho.symm.trans h
    exact lock_Inv F s gi v hI
  | data fr np na hd ho =>
    obtain ⟨ha, hsm⟩ := agree_of_data hM hI.agree.exact hF hd hok.2 (ho ▸ h)
    exact ⟨ha, hsm⟩

/-- the side conditions along a whole history, in the states `runOk` passes through (it continues from the state before a refused
    call: under `Mand` that is the state the object is in, C10) -/
def HistOK (F : FloatOps) : C3D → List Op → Prop
  | _, [] => True
  | s, op :: rest =>
    match step F s op with
    | .ok s' => StepOK F s op s' ∧ HistOK F s' rest
    | .throw _ _ => HistOK F s rest
    | .ub _ => True

/-- every history: header, POINT/ANALOG parameters and stored data agree in every state reached from one that agrees (a new
    object: `reach_Inv_init`), in any order of declare-point, declare-channel, set-rate, add-parameter, append / replace /
    extend-frame, add-column and lock toggles -/
theorem reach_Inv (F : FloatOps) (hF : ∀ a b, F.ratioNat a b < two32) (ops : List Op) (s : C3D) (hI : Inv F s) (hM : Mand s.groups)
    (hH : HistOK F s ops) : Inv F (runOk F s ops) ∧ Mand (runOk F s ops).groups := by
  induction ops generalizing s with
  | nil => exact ⟨hI, hM⟩
  | cons op rest ih =>
    unfold runOk
    unfold HistOK at hH
    cases hs : step F s op with
    | ok s' =>
      rw [hs] at hH
      have hM' : Mand s'.groups :=
        step_preserves_Mand F s s' op hM (fun g p hop gs' hg => ((hH.1.1 g p hop).1 gs' hg)) hs
      exact ih s' (step_Inv F s s' op hI hM hF hH.1 hs) hM' hH.2
    | throw e l =>
      rw [hs] at hH
      exact ih s hI hM hH
    | ub k => exact ⟨hI, hM⟩

theorem reach_Inv_init (F : FloatOps) (hF : ∀ a b, F.ratioNat a b < two32) (ops : List Op) (hH : HistOK F C3D.init ops) :
    Inv F (runOk F C3D.init ops) :=
  (reach_Inv F hF ops C3D.init (init_Inv F) init_Mand hH).1

/-- non-vacuity: the one-call history `point "P"` on a new object meets `HistOK`, so its final state agrees -/
example : Inv F1 (runOk F1 C3D.init [.point [80]]) := by
  apply reach_Inv_init F1 F1_ratio
  unfold HistOK
  cases hs : step F1 C3D.init (.point [80]) with
  | throw e l => simp only [HistOK]
  | ub k => trivial
  | ok s' =>
    simp only [HistOK, and_true]
    exact ⟨fun g p hc => (by cases hc), init_point_small hs⟩

end Ezc3d.C05
