import Ezc3dVerif.Properties.C10
import Ezc3dVerif.Proofs.Updaters
/-
  C10 / C07 (continued) — what can make the POINT half of `c3d::updateParameters` refuse: only the look-ups of POINT:FRAMES,
  POINT:USED and POINT:LABELS. The optional text parameters DESCRIPTIONS and UNITS never refuse, so an object loaded from a file
  without them accepts a new point. Stated without `Mand` (which asks for the optional parameters too).
-/
namespace Ezc3d.C10
open N

/-- the POINT updater succeeds whenever FRAMES, USED and LABELS are in place, whether or not the group holds DESCRIPTIONS / UNITS -/
theorem updatePointParams_needs_no_optional_text (gs : List Group) (frames : List Frame) (np : List Bytes)
    (gP iF iU iL : Nat) (fr u : Int) (ol : List Bytes)
    (h1 : gpIdx gs POINT FRAMES = .ok (gP, iF)) (h2 : int0 gs POINT FRAMES = .ok fr)
    (h3 : strsOf gs POINT LABELS = .ok ol) (h4 : int0 gs POINT USED = .ok u)
    (h5 : gpIdx gs POINT USED = .ok (gP, iU)) (h6 : gpIdx gs POINT LABELS = .ok (gP, iL)) :
    ∃ g', updatePointParams gs frames np = .ok g' :=
  (updatePointParams_walk kept_true trivial frames np).completes
    { framesAt := ⟨_, h1⟩, nFrames := ⟨_, h2⟩, labels := ⟨_, h3⟩, nUsed := ⟨_, h4⟩, usedAt := ⟨_, h5⟩, labelsAt := ⟨_, h6⟩ }

/-- non-vacuity: a POINT group holding ONLY the three parameters (no DESCRIPTIONS, no UNITS) takes a first declared point -/
def bare : List Group :=
  [{ name := POINT, params := [{ name := USED, type := .int, dims := [1], ints := [0] }, { name := FRAMES, type := .int, dims := [1], ints := [0] },
                               { name := LABELS, type := .char, dims := [0, 0] }] }]

example : ∃ g', updatePointParams bare [] [[78, 69, 87]] = .ok g' :=
  updatePointParams_needs_no_optional_text bare [] [[78, 69, 87]] 0 1 0 2 0 0 [] (by decide) (by decide) (by decide) (by decide) (by decide) (by decide)

example : (match updatePointParams bare [] [[78, 69, 87]] with | .ok g => strsOf g POINT LABELS | _ => .throw .runtime_error) = .ok [[78, 69, 87]] := by decide

/-! ### the recorded findings `KF-C10-empty-analog-group-point` and `-analog`, as a witness on the model

  The statement of C10 is FALSE of the unchanged library on objects whose ANALOG group holds no parameter: the negation is
  proved here with a concrete object (and replayed on the library by `corpus/C10/kf-empty-analog-group.script`). The theorems
  `step_refused_unchanged` (under `Mand`, which such an object does not satisfy) stay the part of C10 that holds. -/

def optotrakLike : C3D :=
  { C3D.init with groups :=
      [{ name := POINT, params := [{ name := USED, type := .int, dims := [1], ints := [0] }, { name := FRAMES, type := .int, dims := [1], ints := [0] },
                                   { name := LABELS, type := .char, dims := [0, 0] }] },
       { name := ANALOG, params := [] }] }

/-- `c3d::point("NEW")` is refused (ANALOG:LABELS not found) AFTER the POINT block has rewritten USED and LABELS -/
theorem point_on_empty_analog_group_witness :
    ∃ e l, optotrakLike.point F0 [78, 69, 87] = .throw e l ∧ l ≠ optotrakLike ∧ int0 l.groups POINT USED = .ok 1 := by
  refine ⟨.invalid_argument, _, rfl, ?_, ?_⟩ <;> decide

end Ezc3d.C10
