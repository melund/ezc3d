import Ezc3dVerif.Model.Write
import Ezc3dVerif.Proofs.NoUB
import Ezc3dVerif.Proofs.Outcome
import Ezc3dVerif.Proofs.Updaters
import Ezc3dVerif.Proofs.InsertLookup
import Ezc3dVerif.Properties.C09
/-
  C13 — no memory error on any valid use (the part a model can carry).
  Every container access the C++ performs without a bounds check (`v[i]`, `dimension[k]`, `_param_data_*[cmp]`) is an access in
  the model that evaluates to `ub` when it is out of range. The public mutators never evaluate to `ub`, on any state with any
  argument; the writer does not on objects whose parameters hold as many values as their dimensions announce (`ParamWF`), which
  `Parameter::set` establishes and every history keeps, refused calls included. The loader is C16 and C13b. What the model cannot
  exhibit (heap overflows inside libstdc++, use-after-free, wrong deallocator) is observed by the sanitizer runs of the check.
-/
namespace Ezc3d.C13
open N

theorem updateParameters_noUB (F : FloatOps) (s : C3D) (np na : List Bytes) : (updateParameters F s np na).NoUB :=
  (updateParameters_allN F kept_true s np na trivial).noUB

/-- every public mutator, on every state, with every argument: never an unchecked out-of-range access -/
theorem step_noUB (F : FloatOps) (s : C3D) (op : Op) : (step F s op).NoUB :=
  (step_guarded F s op).elim (Outcome.noUB_throw · s) fun _ h => by
    cases h with
    | parameter _ _ _ _ _ ho => exact ho ▸ (updateHeader_walk F _).allN.noUB
    | lock _ _ _ _ _ ho => exact ho ▸ Outcome.noUB_ok _
    | data _ _ _ _ ho => exact ho ▸ updateParameters_noUB F _ _ _

/-- the state after a history of calls: a successful call gives the next state; after a throw the run continues from the state
    the throw LEFT (`left`, whether or not it is the state before the call); it stops at a `ub` (`step_noUB`: there is none) -/
def runOps (F : FloatOps) (s : C3D) : List Op → C3D
  | [] => s
  | op :: rest => match step F s op with
    | .ok s' => runOps F s' rest
    | .throw _ l => runOps F l rest
    | .ub _ => s

/-- whole histories: no call of any history, from any start state, evaluates to `ub` -/
theorem history_noUB (F : FloatOps) (s : C3D) (ops : List Op) (op : Op) : (step F (runOps F s ops) op).NoUB :=
  step_noUB F _ op

/-- a parameter holds at least as many values as its dimensions announce (what `Parameter::set` and the
    reader establish: exactly as many). A `char` parameter's first dimension is the string width, the rest count the strings;
    with that dimension alone it is ONE string, and the writer takes `strs[0]` unchecked when the width is positive -/
def ParamWF (p : Param) : Prop :=
  match p.type with
  | .char => if p.dims.length = 1 then (hasSize p.dims > 0 → p.strs ≠ []) else (p.dims.drop 1).prod ≤ p.strs.length
  | .byte | .int => p.dims.prod ≤ p.ints.length
  | .float => p.dims.prod ≤ p.floats.length
  | .none => True

instance (p : Param) : Decidable (ParamWF p) := by
  unfold ParamWF; split <;> infer_instance

theorem writeValues_noUB (p : Param) (count : Nat)
    (h : match p.type with
         | .char => count ≤ p.strs.length | .byte | .int => count ≤ p.ints.length
         | .float => count ≤ p.floats.length | .none => True) : (p.writeValues count).NoUB := by
  intro k
  unfold Param.writeValues
  cases ht : p.type <;> simp only [ht] at h ⊢
  case none => exact Res.noUB_ok _ k
  all_goals rw [if_neg (Nat.not_lt.mpr h)]; exact Res.noUB_ok _ k

theorem Param.write_noUB (p : Param) (gid : Int) (ip : Bool) (h : ParamWF p) : (p.write gid ip).NoUB := by
  refine Res.noUB_bind ?_ fun _ => Res.noUB_ok _
  unfold ParamWF at h
  -- `Param.writeData`, one `iteInduction` per `if` of the definition (unification unfolds it): in each branch the count requested from
  -- the value vector is the one `ParamWF` bounds
  refine iteInduction (fun hs => iteInduction (fun ht => ?_) fun ht => ?_) fun _ => Res.noUB_ok _
  · simp only [ht] at h
    refine iteInduction (fun h1 => ?_) fun h1 => ?_
    · rw [if_pos h1] at h
      cases hstr : p.strs with
      | nil => exact absurd hstr (h hs)
      | cons s0 _ => exact Res.noUB_ok _
    · rw [if_neg h1] at h
      exact Res.noUB_bind (writeValues_noUB p _ (by rw [ht]; exact h)) fun _ => Res.noUB_ok _
  · refine Res.noUB_ite _ (Res.noUB_ok _) (Res.noUB_bind (writeValues_noUB p _ ?_) fun _ => Res.noUB_ok _)
    cases ht' : p.type <;> simp only [ht'] at h ⊢
    case char => exact absurd ht' ht
    all_goals exact h

theorem writeParamList_noUB (gid : Int) (ip : Bool) (ps : List Param) (h : ∀ p ∈ ps, ParamWF p) : (writeParamList gid ip ps).NoUB := by
  induction ps with
  | nil => exact Res.noUB_ok _
  | cons p rest ih =>
    unfold writeParamList
    exact Res.noUB_bind (Param.write_noUB p gid ip (h p List.mem_cons_self)) fun _ =>
      Res.noUB_bind (ih fun q hq => h q (List.mem_cons_of_mem _ hq)) fun _ => Res.noUB_ok _

theorem writeGroupList_noUB (gs : List Group) (i : Nat) (h : ∀ g ∈ gs, ∀ p ∈ g.params, ParamWF p) :
    (writeGroupList gs i).NoUB := by
  induction gs generalizing i with
  | nil => exact Res.noUB_ok _
  | cons g rest ih =>
    unfold writeGroupList
    have hg : (g.write i).NoUB := Res.noUB_bind (writeParamList_noUB _ _ _ (h g List.mem_cons_self)) fun _ => Res.noUB_ok _
    exact Res.noUB_bind (Res.noUB_ite _ (Res.noUB_ok _) hg) fun _ =>
      Res.noUB_bind (ih (i + 1) fun g' hg' => h g' (List.mem_cons_of_mem _ hg')) fun _ => Res.noUB_ok _

/-- saving never indexes a value vector out of range when every parameter holds the values its
    dimensions announce -/
theorem write_noUB (s : C3D) (h : ∀ g ∈ s.groups, ∀ p ∈ g.params, ParamWF p) : s.write.NoUB := by
  unfold C3D.write
  apply Res.noUB_bind
  · unfold writeParamSection
    exact Res.noUB_bind (writeGroupList_noUB _ _ h) (fun _ => Res.noUB_ok _)
  · intro ps; exact Res.noUB_ok _

theorem effDims_ne_nil (n : Nat) (dims : List Nat) : effDims n dims ≠ [] := by
  unfold effDims; split
  next => simp
  next h => intro h'; apply h; simp [h']

theorem prod_le_of_consistent (n : Nat) (dims : List Nat) (h : dimConsistent n (effDims n dims) = true) :
    (effDims n dims).prod ≤ n := by
  rcases (C09.dimConsistent_iff n _).mp h with ⟨_, h1 | h1⟩ | ⟨_, h1⟩
  · exact absurd h1 (effDims_ne_nil n dims)
  · rw [C09.prod_zero_of_mem _ h1]; exact Nat.zero_le n
  · exact Nat.le_of_eq h1.symm

/-- what `Parameter::set` stores is well-formed -/
theorem setInts_WF (p p' : Param) (data : List Int) (dims : List Nat) (h : p.setInts data dims = .ok p') : ParamWF p' := by
  obtain ⟨hc, rfl⟩ := Res.guard_eq_ok_iff.mp h
  exact prod_le_of_consistent _ _ hc

theorem setFloats_WF (p p' : Param) (data : List UInt32) (dims : List Nat) (h : p.setFloats data dims = .ok p') : ParamWF p' := by
  obtain ⟨hc, rfl⟩ := Res.guard_eq_ok_iff.mp h
  exact prod_le_of_consistent _ _ hc

theorem setStrs_WF (p p' : Param) (data : List Bytes) (dims : List Nat) (h : p.setStrs data dims = .ok p') : ParamWF p' := by
  obtain ⟨hc, rfl⟩ := Res.guard_eq_ok_iff.mp h
  -- the string width comes first, so the shape has at least two entries
  have h1 : (maxLen data :: effDims data.length dims).length ≠ 1 := by
    exact fun hl => effDims_ne_nil _ dims (List.eq_nil_of_length_eq_zero (Nat.succ.inj hl))
  unfold ParamWF
  simp only [h1, if_false, List.drop_succ_cons, List.drop_zero]
  exact prod_le_of_consistent _ _ hc

def WFs (gs : List Group) : Prop := ∀ g ∈ gs, ∀ p ∈ g.params, ParamWF p

theorem modParam_WF (gs : List Group) (gi pi : Nat) (f : Param → Param) (h : WFs gs) (hf : ∀ p, ParamWF (f p)) :
    WFs (modParam gs gi pi f) :=
  forall_mem_modify h gi fun g hg => forall_mem_modify (h g hg) pi fun p _ => hf p

theorem setInts!_WF (p : Param) (v : List Int) : ParamWF (p.setInts! v) := by
  unfold ParamWF Param.setInts!; simp
theorem setFloats!_WF (p : Param) (v : List UInt32) : ParamWF (p.setFloats! v) := by
  unfold ParamWF Param.setFloats!; simp
theorem setStrs!_WF (p : Param) (v : List Bytes) : ParamWF (p.setStrs! v) := by
  unfold ParamWF Param.setStrs!; simp

theorem init_WF : WFs C3D.init.groups := by
  unfold WFs; decide

theorem modIfPresent_WF (gs : List Group) (g p : Bytes) (gi : Nat) (f : Param → Param) (h : WFs gs) (hf : ∀ p, ParamWF (f p)) :
    WFs (modIfPresent gs g p gi f) := by
  unfold modIfPresent; split
  · exact modParam_WF _ _ _ _ h hf
  · exact h

theorem sets_WF {k : Kind} {f : Param → Param} (h : Sets k f) (q : Param) : ParamWF (f q) := by
  cases h
  · exact setInts!_WF _ _
  · exact setStrs!_WF _ _
  · exact setStrs!_WF _ _
  · exact setFloats!_WF _ _
  · exact setInts!_WF _ _

theorem kept_WFs : Kept WFs :=
  fun g1 _ _ _ gi pi f h _ _ hs => modParam_WF g1 gi pi f h (sets_WF hs)

theorem WFs_set {gs : List Group} (h : WFs gs) (i : Nat) {g : Group} (hg : ∀ q ∈ g.params, ParamWF q) : WFs (gs.set i g) := by
  intro x hx
  rcases List.mem_or_eq_of_mem_set hx with hx | rfl
  · exact h x hx
  · exact hg

theorem addParam_WF {g g' : Group} {p : Param} (h : g.addParam p = .ok g') (hg : ∀ q ∈ g.params, ParamWF q) (hp : ParamWF p) :
    ∀ q ∈ g'.params, ParamWF q := by
  rw [addParam_eq] at h
  split at h; · cases h
  cases h
  exact forall_mem_putParam hg hp

theorem insertParam_WF (gs gs' : List Group) (gn : Bytes) (p : Param) (h : WFs gs) (hp : ParamWF p)
    (hi : insertParam gs gn p = .ok gs') : WFs gs' := by
  obtain ⟨gs1, gi, grp, hgs1, _, hgrp, _, rfl⟩ := insertParam_ok_inv hi
  have h1 : WFs gs1 := by
    rcases hgs1 with rfl | ⟨_, rfl⟩
    · exact h
    · intro x hx
      rcases List.mem_append.mp hx with hx | hx
      · exact h x hx
      · rw [List.mem_singleton.mp hx]; intro q hq; cases hq
  exact WFs_set h1 gi (forall_mem_putParam (h1 grp (List.mem_of_getElem? hgrp)) hp)

/-- whatever the operation and its outcome (success or refusal), a well-formed parameter tree stays well-formed,
    provided a parameter handed to `parameter()` is itself well-formed (what the typed setters guarantee: `set*_WF`) -/
theorem step_preserves_WF (F : FloatOps) (s : C3D) (op : Op) (h : WFs s.groups)
    (hp : ∀ g p, op = .parameter g p → ParamWF p) : (step F s op).All (fun c => WFs c.groups) :=
  (step_guarded F s op).elim (fun _ => h) fun _ ho => by
    cases ho with
    | parameter g p gs' hop hins ho =>
      exact ho ▸ Outcome.all_mono (updateHeader_walk F _).allN.all fun _ hc => hc.1 ▸ insertParam_WF _ _ _ _ h (hp g p hop) hins
    | lock _ _ gi _ _ ho => exact ho ▸ forall_mem_modify h gi fun x hx => h x hx
    | data fr np na _ ho => exact ho ▸ Outcome.all_mono (updateParameters_allN F kept_WFs { s with frames := fr } np na h).all fun _ hc => hc.1

/-- the parameters handed to `parameter()` along a history are well-formed -/
def ParamsWF : List Op → Prop
  | [] => True
  | op :: rest => (∀ g p, op = .parameter g p → ParamWF p) ∧ ParamsWF rest

/-- every history: the parameter tree of every state reached from a well-formed one (successful and refused calls alike) is
    well-formed -/
theorem reach_WF (F : FloatOps) (ops : List Op) (s : C3D) (h : WFs s.groups) (hp : ParamsWF ops) :
    WFs (runOps F s ops).groups := by
  induction ops generalizing s with
  | nil => exact h
  | cons op rest ih =>
    unfold runOps
    have hs := step_preserves_WF F s op h hp.1
    cases hst : step F s op with
    | ok s' => rw [hst] at hs; exact ih s' hs hp.2
    | throw e l => rw [hst] at hs; exact ih l hs hp.2
    | ub k => exact h

/-- hence saving any reachable object never indexes a value vector out of range -/
theorem reachable_write_noUB (F : FloatOps) (ops : List Op) (hp : ParamsWF ops) : (runOps F C3D.init ops).write.NoUB :=
  write_noUB _ (reach_WF F ops C3D.init init_WF hp)

end Ezc3d.C13
