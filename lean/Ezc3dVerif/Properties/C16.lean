import Ezc3dVerif.Proofs.LoadTotal
import Ezc3dVerif.Proofs.LoadWF
import Ezc3dVerif.Properties.C01
/-
  C16 — damaged files are refused or loaded, never crash or hang (the part that is logic).
  For EVERY byte string: the model's loader never evaluates an unchecked access out of range (`ub`),
  and its two loops - the leading-zero skip and the parameter record chain - terminate: the fuel they are
  given is never exhausted, because every iteration that continues has consumed input. (The cost of the
  data section follows the announced counts: a known finding, see known_findings.json.)
-/
namespace Ezc3d.C16

/-- the record chain: with fuel above the measure of the stream, the loop never runs out of it -/
theorem readRecords_terminates (fuel : Nat) (s : InStream) (next : Int) (gs : List Group) (h : mu s < fuel) :
    readRecords fuel s next gs ≠ .error (.inr .nonTermination) :=
  (readRecords_within fuel s next gs rfl).noUB (by omega) _

/-- the leading-zero skip: each iteration consumes a byte or ends at the end of the file -/
theorem skipZeros_terminates (fuel : Nat) (s : InStream) (z : Nat) (hf : s.failed = false ∨ s.eof = true)
    (h : s.rest.length < fuel) : skipZeros fuel s z ≠ .error (.inr .nonTermination) :=
  (skipZeros_within fuel s z).noUB (by rcases hf with hf | hf <;> simp [hf] <;> omega) _

theorem Header_read_terminates (file : Bytes) :
    Header.read (InStream.open_ file) ≠ .error (.inr .nonTermination) :=
  Header_read_noUB file _

theorem readParameters_terminates (s : InStream) (h : Header) :
    readParameters s h ≠ .error (.inr .nonTermination) :=
  readParameters_noUB s h _

/-- loading ANY byte string terminates: neither loop of the loader can spin -/
theorem load_terminates_header_and_parameters (file : Bytes) (h : Header) (s : InStream) :
    Header.read (InStream.open_ file) ≠ .error (.inr .nonTermination) ∧
    readParameters s h ≠ .error (.inr .nonTermination) :=
  ⟨Header_read_terminates file, readParameters_terminates s h⟩

/-- the header reconciliation between the two never evaluates an unchecked access either -/
theorem load_updateHeader_noUB (F : FloatOps) (s : C3D) : (updateHeader F s).NoUB := (updateHeader_walk F s).allN.noUB

/-- LOADING ANY BYTE SEQUENCE EITHER RETURNS AN OBJECT OR THROWS A STANDARD EXCEPTION: for every byte string (and every float
    model) the loader - header reader, record chain, header reconciliation, data reader - never evaluates an unchecked
    access out of range and never runs out of the fuel its loops are given. -/
theorem load_total (F : FloatOps) (file : Bytes) : (C3D.load F file).NoUB := by
  intro k h
  unfold C3D.load at h
  split at h
  · cases h
  next k' hk' => exact Header_read_noUB file k' hk'
  · split at h
    · cases h
    next k' hk' => exact readParameters_noUB _ _ k' hk'
    · split at h
      · cases h
      next k' hk' => exact (updateHeader_walk F _).allN.noUB k' hk'
      · split at h
        · cases h
        next k' hk' => exact readData_noUB _ _ _ _ k' hk'
        · cases h

/-- the same, as the property words it: an object, or an exception of one of the standard classes -/
theorem load_object_or_exception (F : FloatOps) (file : Bytes) :
    (∃ c, C3D.load F file = .ok c) ∨ (∃ e, C3D.load F file = .throw e) := by
  cases h : C3D.load F file with
  | ok c => exact Or.inl ⟨c, rfl⟩
  | throw e => exact Or.inr ⟨e, rfl⟩
  | ub k => exact absurd h (load_total F file k)

/-- non-vacuity of the refusing branch: the empty file. (A file that is loaded: the `example` of Properties/C13b.lean, the
    file of `C01.s0`.) -/
example : C3D.load C01.F0 [] = .throw .ios_failure := by decide +kernel

end Ezc3d.C16
