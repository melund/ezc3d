import Ezc3dVerif.Model.Read
import Ezc3dVerif.Model.Write
import Ezc3dVerif.Proofs.Codec
/-
  C19 — results do not depend on optimisation level or library kind (the part that is logic).
  The model is a function of its inputs; two builds that each return what the model returns agree with each other. The
  non-trivial content is WHERE a conforming compiler would have licence to differ: the places where the code executes
  arithmetic that C++ leaves undefined. `hex2uintArithUB` lists them; the theorems say they are confined to reads of 4 or
  more bytes (the header scale word and the reserved runs), never the 1- and 2-byte reads that carry every parameter value,
  count, length and offset. The check compares six builds and lists the UB sites with a UBSan build.
-/
namespace Ezc3d.C19

/-- `build` returns what the model returns on every input considered (a build, abstractly, is the function from inputs to results) -/
def Corresponds {ι ο : Type} (build model : ι → ο) (inputs : ι → Prop) : Prop := ∀ x, inputs x → build x = model x

theorem builds_agree {ι ο : Type} (b1 b2 model : ι → ο) (inputs : ι → Prop)
    (h1 : Corresponds b1 model inputs) (h2 : Corresponds b2 model inputs) : ∀ x, inputs x → b1 x = b2 x := by
  intro x hx; rw [h1 x hx, h2 x hx]

/-- no arithmetic UB is executed when decoding 1-, 2- or 3-byte integers -/
theorem short_reads_no_arith_ub (val : Bytes) (h : val.length ≤ 3) : hex2uintArithUB val = false := by
  unfold hex2uintArithUB
  have h1 : ¬ val.length > 4 := by omega
  have h2 : val[3]? = none := by simp; omega
  simp [h1, h2]

/-- a 4-byte read executes signed overflow exactly when the top byte is ≥ 0x80 (every float-format header:
    the scale word of a float file has its sign bit set) -/
theorem four_byte_read_ub_iff (a b c d : UInt8) : hex2uintArithUB [a, b, c, d] = true ↔ d.toNat ≥ 128 := by
  unfold hex2uintArithUB
  simp

/-- reads longer than 4 bytes (the reserved header runs) always execute an out-of-range conversion -/
theorem long_reads_arith_ub (val : Bytes) (h : val.length > 4) : hex2uintArithUB val = true := by
  unfold hex2uintArithUB; simp [h]

/-- a trailing run of zero bytes contributes nothing, whatever the undefined conversion of their powers of 256 produces: the long
    reads of `long_reads_arith_ub`, on the reserved runs that real files leave zero, give the same value on every build -/
theorem zero_tail (l : Bytes) (n i acc : Nat) :
    hex2uintAux (l ++ List.replicate n 0) i acc = hex2uintAux l i acc := by
  induction l generalizing i acc with
  | nil => simpa [hex2uintAux] using hex2uintAux_zeros n i acc
  | cons b t ih => simp only [List.cons_append, hex2uintAux]; rw [ih]

end Ezc3d.C19
