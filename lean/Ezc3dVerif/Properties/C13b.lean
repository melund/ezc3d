import Ezc3dVerif.Proofs.LoadWF
import Ezc3dVerif.Properties.C01
/-
  C13 (continued) — objects that come from a file. Every parameter the loader builds, from any bytes it accepts (files below
  2^56 bytes), holds as many values as its dimensions announce (`load_WF`); hence saving a loaded object, or any object reached
  from it through the public API, never indexes a value vector out of range.
-/
namespace Ezc3d.C13
open N

/-- load -> save: the writer never indexes out of range on an object the loader returned -/
theorem loaded_write_noUB (F : FloatOps) (file : Bytes) (c : C3D) (hlen : file.length + 0xFFFF < two64 / 256)
    (h : C3D.load F file = .ok c) : c.write.NoUB :=
  write_noUB c (load_WF F file c hlen h)

/-- load -> any history of public calls -> save -/
theorem loaded_history_write_noUB (F : FloatOps) (file : Bytes) (c : C3D) (ops : List Op) (hlen : file.length + 0xFFFF < two64 / 256)
    (h : C3D.load F file = .ok c) (hp : ParamsWF ops) : (runOps F c ops).write.NoUB :=
  write_noUB _ (reach_WF F ops c (load_WF F file c hlen h) hp)

/-- one parameter record read from any bytes -/
theorem parameter_record_WF (L : Nat) (hL : L + 0xFFFF < two64 / 256) (n : Int) (s s' : InStream) (p : Param) (nx : Int)
    (hl : s.len = L) (h : Param.read n s = .ok ((p, nx), s')) : ParamWF p :=
  (Param_read_WF L hL n s (p, nx) s' hl h).2

/-- non-vacuity: the file of `C01.s0` loads, and the theorem applies to it -/
example : ∃ c, C3D.load C01.F0 C01.s0b = .ok c ∧ c.write.NoUB := by
  have h := C01.load_write C01.F0 C01.s0 C01.s0b C01.s0ps _ _ C01.s0_in_domain
  refine ⟨_, h, loaded_write_noUB C01.F0 C01.s0b _ ?_ h⟩
  -- the domain of `load_write` bounds the file by 2^31 bytes
  have hlen : C01.s0b.length + 2 < two31 := C01.s0_in_domain.2.2.2.2.2.2.2.2.2.1
  generalize C01.s0b.length = n at hlen ⊢
  unfold two31 at hlen; unfold two64; omega

end Ezc3d.C13
