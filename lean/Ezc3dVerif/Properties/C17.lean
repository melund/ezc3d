import Ezc3dVerif.Properties.C12
/-
  C17 — content at the format's limits survives; beyond them saving refuses (the part that is logic:
  each capacity limit is exactly the range on which the field's writer and reader are inverse, and one step
  beyond it they are not — so the limits the check sweeps are the right ones, and the beyond-limit
  truncation recorded as known findings is what the code computes).
-/
namespace Ezc3d.C17
open C12

/-- names: 0..127 characters survive the signed length byte -/
theorem name_length_at_limit (n : Nat) (h : n ≤ 127) : hex2int [low8 (n : Int)] = n :=
  low8_read _ (by omega) (by omega)

/-- a locked name (negative length) of 1..128 characters survives too -/
theorem locked_name_length (n : Nat) (h1 : 1 ≤ n) (h2 : n ≤ 128) : hex2int [low8 (-(n : Int))] = -(n : Int) :=
  low8_read _ (by omega) (by omega)

/-- 128..255 characters: the length byte reads back negative, i.e. as a LOCKED name of 256-n characters -/
theorem name_length_beyond (n : Nat) (h1 : 128 ≤ n) (h2 : n ≤ 255) : hex2int [low8 (n : Int)] = (n : Int) - 256 := by
  rw [low8_eq, hex2int_leBytes 1 n (by decide)]
  exact (bmod_natCast n 128 (by omega)).trans (if_neg (by omega))

/-- descriptions, dimension entries, dimension counts: 0..255 survive the unsigned byte -/
theorem byte_field_at_limit (n : Nat) (h : n ≤ 255) : hex2uint [low8N n] = n := low8N_read n (by omega)

/-- … 256 + k is written as k -/
theorem byte_field_beyond (k : Nat) (h : k ≤ 255) : hex2uint [low8N (256 + k)] = k := by
  rw [low8N, low8_eq, hex2uint_leBytes_nat 1 (256 + k) (by decide)]
  exact (Nat.add_mod_left 256 k).trans (Nat.mod_eq_of_lt (Nat.lt_succ_of_le h))

/-- record offsets and header words: 0..65535 survive the 16-bit field -/
theorem word_field_at_limit (n : Nat) (h : n ≤ 65535) : hex2uint (le16N n) = n := le16N_read n (by omega)

/-- integer parameter values: exactly the signed 16-bit range survives -/
theorem int_value_at_limit (v : Int) (h1 : -32768 ≤ v) (h2 : v ≤ 32767) : hex2int (le16 v) = v :=
  le16_read v h1 (by omega)

theorem int_value_beyond (v : Int) (h1 : 32768 ≤ v) (h2 : v ≤ 65535) : hex2int (le16 v) = v - 65536 := by
  obtain ⟨n, rfl⟩ := Int.eq_ofNat_of_zero_le (Int.le_trans (by decide) h1)
  rw [le16_eq, hex2int_leBytes 2 n (by decide)]
  exact (bmod_natCast n 32768 (by omega)).trans (if_neg (by omega))

/-- 32767 frames: POINT:FRAMES (an int parameter written on 16 bits) reads back as the frame count;
    32768 reads back as a negative number, i.e. an enormous size_t -/
theorem frames_at_limit : intToU64 (hex2int (le16 (u64ToI32 32767))) = 32767 := by decide
theorem frames_beyond : intToU64 (hex2int (le16 (u64ToI32 32768))) = 18446744073709518848 := by decide

/-- 255 parameter blocks fit the 8-bit block count; 256 wraps to 0 -/
theorem blocks_at_limit : hex2uint [low8 255] = 255 ∧ hex2uint [low8 256] = 0 := by decide

end Ezc3d.C17
