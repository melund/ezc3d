import Ezc3dVerif.Proofs.Heap
import Ezc3dVerif.Proofs.ByName
/-
  C08 — stored data is independent of the caller's objects and of other frames.
  Stated on `Model/Heap.lean`, where a `Frame` is a pair of shared handles as in the C++ (values do not alias). `Sep` (no cell
  shared between two stored frames, or a stored and a caller's frame) holds in every history; under `Sep` the caller's edits do
  not move what the object stores (`view`), an edit of stored frame `i` moves `view[i]` only, and the heap operations compute
  what the value model computes (`Stores`). Without the clone (`frameAppendShared`, the code before fix 05c84b3) `Sep` fails
  and a caller's edit changes what the object stores: concrete witness.
-/
namespace Ezc3d.C08
open Ezc3d.Heap

theorem Sep.replace {h : Heap} (s : Sep h) (i : Nat) (nf : HFrame)
    (ha : nf.pts < h.P.length ∧ nf.subs < h.A.length)
    (hp : ∀ g ∈ h.stored, nf.pts ≠ g.pts) (hs : ∀ g ∈ h.stored, nf.subs ≠ g.subs)
    (vp : ∀ f ∈ h.vars, f.pts ≠ nf.pts) (vs : ∀ f ∈ h.vars, f.subs ≠ nf.subs) :
    Sep { h with stored := h.stored.set i nf } := by
  refine s.withStored _ ?_ ?_ fun g hg => ?_
  · rw [List.map_set]; exact nodup_set s.nodupP _ _ (not_mem_map hp)
  · rw [List.map_set]; exact nodup_set s.nodupA _ _ (not_mem_map hs)
  · rcases List.mem_or_eq_of_mem_set hg with hg | hg
    · exact s.of_mem_stored hg
    · cases hg
      exact ⟨ha, fun f hf => ⟨vp f hf, vs f hf⟩⟩

end Ezc3d.C08

namespace Ezc3d.Heap

/-- the sixth primitive move of Proofs/Heap.lean; it stands here because it rests on `C08.Sep.replace` above -/
theorem Stores.allocSet {h : Heap} {fs} (a : Stores h fs) (p : List Point) (q : List SubFrame) (i : Nat) :
    Stores { h with P := h.P ++ [p], A := h.A ++ [q], stored := h.stored.set i { pts := h.P.length, subs := h.A.length } }
      (fs.set i { pts := p, subs := q }) := by
  have b := a.alloc p q
  refine ⟨C08.Sep.replace b.sep i _ (by simp) (fun g hg => Nat.ne_of_gt (a.sep.allocS g hg).1) (fun g hg => Nat.ne_of_gt (a.sep.allocS g hg).2)
    (fun f hf => Nat.ne_of_lt (a.sep.allocV f hf).1) (fun f hf => Nat.ne_of_lt (a.sep.allocV f hf).2), ?_⟩
  rw [← b.view, ← deref_alloc h p q]
  exact List.map_set

end Ezc3d.Heap

namespace Ezc3d.C08
open Ezc3d.Heap

theorem clone_stores {h : Heap} {fs} (a : Stores h fs) (src : HFrame) : Stores (h.clone src).1 fs := a.alloc _ _
theorem clone_stored (h : Heap) (src : HFrame) : (h.clone src).1.stored = h.stored := rfl
theorem clone_vars (h : Heap) (src : HFrame) : (h.clone src).1.vars = h.vars := rfl
theorem clone_deref (h : Heap) (src : HFrame) : (h.clone src).1.deref (h.clone src).2 = h.deref src := deref_alloc h _ _

theorem callerMk_stores {h : Heap} {fs} (a : Stores h fs) (v : Frame) : Stores (h.callerMk v) fs := a.allocVar _ _

theorem callerCopy_stores {h : Heap} {fs} (a : Stores h fs) (v : Nat) : Stores (h.callerCopy v) fs := by
  unfold Heap.callerCopy
  split
  next f e =>
    have hf := List.mem_of_getElem? e
    exact a.pushVar f (a.sep.allocV f hf) fun g hg => ⟨a.sep.apartP f hf g hg, a.sep.apartA f hf g hg⟩
  next => exact a

theorem callerMutP_stores {h : Heap} {fs} (a : Stores h fs) (v : Nat) (g) : Stores (h.callerMutP v g) fs := by
  unfold Heap.callerMutP
  split
  next f e =>
    exact a.withCells (by simp) (Nat.le_refl _) fun k hk =>
      ⟨getD_set_ne _ _ _ _ _ (a.sep.apartP f (List.mem_of_getElem? e) k hk), rfl⟩
  next => exact a
theorem callerMutA_stores {h : Heap} {fs} (a : Stores h fs) (v : Nat) (g) : Stores (h.callerMutA v g) fs := by
  unfold Heap.callerMutA
  split
  next f e =>
    exact a.withCells (Nat.le_refl _) (by simp) fun k hk =>
      ⟨rfl, getD_set_ne _ _ _ _ _ (a.sep.apartA f (List.mem_of_getElem? e) k hk)⟩
  next => exact a

theorem frameAppend_stores {h : Heap} {fs} (a : Stores h fs) (src : HFrame) :
    Stores (h.frameAppend src) (fs ++ [h.deref src]) := a.allocPush _ _
theorem frameAppend_vars (h : Heap) (f : HFrame) : (h.frameAppend f).vars = h.vars := rfl

theorem storedMut_stores {h : Heap} {fs} (a : Stores h fs) (i : Nat) (gp ga) :
    Stores (h.storedMut i gp ga) (fs.modify i fun f => { pts := gp f.pts, subs := ga f.subs }) := by
  unfold Heap.storedMut Heap.storedMutA Heap.storedMutP
  cases e : h.stored[i]? with
  | none =>
    simp only [e]
    rw [List.modify_eq_self (by rw [← a.length]; exact List.getElem?_eq_none_iff.mp e)]
    exact a
  | some f => simp only [e]; exact a.write e gp ga

theorem storedMut_other {h : Heap} (s : Sep h) (i j : Nat) (gp ga) (hij : i ≠ j) :
    (h.storedMut i gp ga).view[j]? = h.view[j]? := by
  rw [(storedMut_stores s.toStores i gp ga).view, List.getElem?_modify_ne _ _ hij]

theorem storedMutP_id (h : Heap) (i : Nat) : h.storedMutP i id = h := by
  unfold Heap.storedMutP; split
  next f _ => show ({ h with P := _ } : Heap) = h; rw [id, Heap.derefP, set_getD_self]
  next => rfl
theorem storedMutA_id (h : Heap) (i : Nat) : h.storedMutA i id = h := by
  unfold Heap.storedMutA; split
  next f _ => show ({ h with A := _ } : Heap) = h; rw [id, Heap.derefA, set_getD_self]
  next => rfl

theorem storedMutP_stores {h : Heap} {fs} (a : Stores h fs) (i : Nat) (g : List Point → List Point) :
    Stores (h.storedMutP i g) (fs.modify i fun f => { f with pts := g f.pts }) := by
  have := storedMut_stores a i g id
  rwa [Heap.storedMut, storedMutA_id] at this
theorem storedMutA_stores {h : Heap} {fs} (a : Stores h fs) (i : Nat) (g : List SubFrame → List SubFrame) :
    Stores (h.storedMutA i g) (fs.modify i fun f => { f with subs := g f.subs }) := by
  have := storedMut_stores a i id g
  rwa [Heap.storedMut, storedMutP_id] at this

/-- the column loop from frame `pre.length` on: the form the induction needs -/
theorem mutEach_stores {h : Heap} {pre fs : List Frame} (a : Stores h (pre ++ fs))
    (gs : List ((List Point → List Point) × (List SubFrame → List SubFrame))) (hl : gs.length = fs.length) :
    Stores (h.mutEach pre.length gs) (pre ++ List.zipWith (fun f g => { pts := g.1 f.pts, subs := g.2 f.subs }) fs gs) := by
  induction gs generalizing h pre fs with
  | nil => cases fs with
    | nil => exact a
    | cons _ _ => cases hl
  | cons g rest ih =>
    cases fs with
    | nil => cases hl
    | cons f fs' =>
      have b := storedMut_stores a pre.length g.1 g.2
      rw [modify_append_length, List.append_cons] at b
      have c := ih b (Nat.succ.inj hl)
      rw [List.length_append, List.append_assoc] at c
      exact c

/-- adding points: every stored frame gets exactly its new points, appended once -/
theorem pointCols_stores {h : Heap} {fs} (a : Stores h fs) (cols : List (List Point)) (hl : cols.length = fs.length) :
    Stores (h.pointCols cols) (List.zipWith (fun (f : Frame) ps => { f with pts := f.pts ++ ps }) fs cols) := by
  have := mutEach_stores (pre := []) a (cols.map fun ps => ((· ++ ps), id)) (by simpa using hl)
  rwa [List.zipWith_map_right] at this
theorem pointCols_view {h : Heap} (s : Sep h) (cols : List (List Point)) (hl : cols.length = h.stored.length) :
    (h.pointCols cols).view = List.zipWith (fun (f : Frame) ps => { f with pts := f.pts ++ ps }) h.view cols :=
  (pointCols_stores s.toStores cols (hl.trans s.toStores.length)).view

theorem analogCols_stores {h : Heap} {fs} (a : Stores h fs) (nsf : Nat) (cols : List (List (List Channel)))
    (hl : cols.length = fs.length) :
    Stores (h.analogCols nsf cols) (List.zipWith (fun (f : Frame) cs =>
        { f with subs := List.zipWith (· ++ ·) (f.subs.take nsf) cs ++ f.subs.drop nsf }) fs cols) := by
  have := mutEach_stores (pre := []) a (cols.map fun cs => (id, fun subs => List.zipWith (· ++ ·) (subs.take nsf) cs ++ subs.drop nsf))
    (by simpa using hl)
  rwa [List.zipWith_map_right] at this
/-- adding channels: the first `nsf` sub-frames of every stored frame get exactly their new channels, once -/
theorem analogCols_view {h : Heap} (s : Sep h) (nsf : Nat) (cols : List (List (List Channel)))
    (hl : cols.length = h.stored.length) :
    (h.analogCols nsf cols).view = List.zipWith (fun (f : Frame) cs =>
        { f with subs := List.zipWith (· ++ ·) (f.subs.take nsf) cs ++ f.subs.drop nsf }) h.view cols :=
  (analogCols_stores s.toStores nsf cols (hl.trans s.toStores.length)).view

theorem pushBlank_stores {h : Heap} {fs} (a : Stores h fs) : Stores h.pushBlank (fs ++ [({} : Frame)]) := a.allocPush [] []
theorem pushBlank_vars (h : Heap) : h.pushBlank.vars = h.vars := rfl

theorem growBy_stores {h : Heap} {fs} (a : Stores h fs) (n : Nat) : Stores (h.growBy n) (fs ++ List.replicate n ({} : Frame)) := by
  induction n generalizing h fs with
  | zero => rw [List.replicate_zero, List.append_nil]; exact a
  | succ n ih =>
    have := ih (pushBlank_stores a)
    rwa [List.append_assoc, List.singleton_append, ← List.replicate_succ] at this
theorem growBy_cells (n : Nat) : ∀ (h : Heap), (h.growBy n).P = h.P ++ List.replicate n [] ∧
    (h.growBy n).A = h.A ++ List.replicate n [] := by
  induction n with
  | zero => intro h; simp [Heap.growBy]
  | succ n ih => intro h; simp [Heap.growBy, ih, Heap.pushBlank, List.replicate_succ]
theorem growBy_lengths (n : Nat) : ∀ (h : Heap), h.P.length ≤ (h.growBy n).P.length ∧ h.A.length ≤ (h.growBy n).A.length := by
  intro h; rw [(growBy_cells n h).1, (growBy_cells n h).2]; simp
theorem growBy_deref (n : Nat) (h : Heap) (f : HFrame) (hf : f.pts < h.P.length ∧ f.subs < h.A.length) :
    (h.growBy n).deref f = h.deref f := by
  simp only [Heap.deref, Heap.derefP, Heap.derefA, (growBy_cells n h).1, (growBy_cells n h).2, List.getD_eq_getElem?_getD,
    List.getElem?_append_left hf.1, List.getElem?_append_left hf.2]

/-- after `frame(f, idx)` the object stores the value model's `setAt {} frames idx f` for the value `f` had at the call, also
    when `f` is one of the stored frames (fix c5e71d0) -/
theorem frameAt_stores {h : Heap} {fs} (a : Stores h fs) (src : HFrame) (idx : Nat) :
    Stores (h.frameAt src idx) (setAt {} fs idx (h.deref src)) := by
  have b := growBy_stores (clone_stores a src) (idx + 1 - h.stored.length)
  have c : Stores (h.frameAt src idx) ((fs ++ List.replicate (idx + 1 - h.stored.length) ({} : Frame)).set idx
      (((h.clone src).1.growBy (idx + 1 - h.stored.length)).deref (h.clone src).2)) := b.allocSet _ _ idx
  rwa [growBy_deref _ _ _ (by simp [Heap.clone]), clone_deref, a.length, ← setAt_eq_set] at c
theorem frameAt_view {h : Heap} (s : Sep h) (src : HFrame) (idx : Nat) :
    (h.frameAt src idx).view = setAt {} h.view idx (h.deref src) := (frameAt_stores s.toStores src idx).view

/-- what the caller and the object can do, in any order. A frame handed to the object is one of the caller's
    Frame objects (`fromVar`) or one of the object's own stored frames (`c.frame(c.data().frame(k), …)`). -/
inductive Op where
  | mk (v : Frame)                                   -- caller builds a frame
  | copy (v : Nat)                                   -- caller copies a Frame object (handles shared)
  | cmutP (v : Nat) (g : List Point → List Point)    -- caller edits its frame in place
  | cmutA (v : Nat) (g : List SubFrame → List SubFrame)
  | append (fromVar : Bool) (k : Nat)                -- c.frame(f)
  | at_ (fromVar : Bool) (k : Nat) (idx : Nat)       -- c.frame(f, idx)
  | smut (i : Nat) (gp : List Point → List Point) (ga : List SubFrame → List SubFrame)  -- edit through frame_nonConst
  | pcols (cols : List (List Point))                 -- c.point(frames)
  | acols (nsf : Nat) (cols : List (List (List Channel)))  -- c.analog(frames)

def source (h : Heap) (fromVar : Bool) (k : Nat) : Option HFrame := if fromVar then h.vars[k]? else h.stored[k]?

def step (h : Heap) : Op → Heap
  | .mk v => h.callerMk v
  | .copy v => h.callerCopy v
  | .cmutP v g => h.callerMutP v g
  | .cmutA v g => h.callerMutA v g
  | .append fv k => match source h fv k with | some f => h.frameAppend f | none => h
  | .at_ fv k idx => match source h fv k with | some f => h.frameAt f idx | none => h
  | .smut i gp ga => h.storedMut i gp ga
  | .pcols cols => if cols.length = h.stored.length then h.pointCols cols else h
  | .acols nsf cols => if cols.length = h.stored.length then h.analogCols nsf cols else h

def Op.isCaller : Op → Bool
  | .mk _ | .copy _ | .cmutP _ _ | .cmutA _ _ => true
  | _ => false

/-- every operation keeps `Stores`, and one of the caller's leaves the stored values as they were -/
theorem step_stores {h : Heap} {fs} (a : Stores h fs) (op : Op) :
    ∃ fs', Stores (step h op) fs' ∧ (op.isCaller = true → fs' = fs) := by
  cases op with
  | mk v => exact ⟨_, callerMk_stores a v, fun _ => rfl⟩
  | copy v => exact ⟨_, callerCopy_stores a v, fun _ => rfl⟩
  | cmutP v g => exact ⟨_, callerMutP_stores a v g, fun _ => rfl⟩
  | cmutA v g => exact ⟨_, callerMutA_stores a v g, fun _ => rfl⟩
  | smut i gp ga => exact ⟨_, storedMut_stores a i gp ga, nofun⟩
  | append fv k =>
    simp only [step]; split
    · exact ⟨_, frameAppend_stores a _, nofun⟩
    · exact ⟨_, a, nofun⟩
  | at_ fv k idx =>
    simp only [step]; split
    · exact ⟨_, frameAt_stores a _ idx, nofun⟩
    · exact ⟨_, a, nofun⟩
  | pcols cols =>
    simp only [step]; split
    · exact ⟨_, pointCols_stores a cols (by rwa [← a.length]), nofun⟩
    · exact ⟨_, a, nofun⟩
  | acols nsf cols =>
    simp only [step]; split
    · exact ⟨_, analogCols_stores a nsf cols (by rwa [← a.length]), nofun⟩
    · exact ⟨_, a, nofun⟩

theorem step_sep {h : Heap} (s : Sep h) (op : Op) : Sep (step h op) :=
  let ⟨_, b, _⟩ := step_stores s.toStores op
  b.sep

/-- separation holds in every reachable state, for every interleaving of caller and object operations -/
theorem reach_sep (ops : List Op) : Sep (ops.foldl step {}) :=
  List.foldlRecOn ops step Sep.init fun _ s op _ => step_sep s op

/-- C08, first sentence, for every history: in any reachable state, nothing the caller does with its own
    frame objects — reused, copied, mutated, already handed over once or many times — changes what the
    object stores -/
theorem caller_invisible (ops : List Op) (op : Op) (hc : op.isCaller = true) :
    (step (ops.foldl step {}) op).view = (ops.foldl step {}).view := by
  obtain ⟨_, b, e⟩ := step_stores (reach_sep ops).toStores op
  rw [b.view, e hc]

/-- C08, "handing over the same frame object several times yields frames that can be edited
    independently": in any reachable state, after handing the same caller frame twice, an edit of the
    second stored copy leaves the first as handed over -/
theorem handover_twice_independent (ops : List Op) (k : Nat) (f : HFrame) (gp ga)
    (hk : (ops.foldl step {}).vars[k]? = some f) :
    let h := ops.foldl step {}
    let h2 := step (step h (.append true k)) (.append true k)
    (h2.storedMut (h.stored.length + 1) gp ga).view[h.stored.length]? = some (h.deref f) := by
  intro h h2
  have a : Stores h h.view := (reach_sep ops).toStores
  have e : ∀ {h' : Heap}, h'.vars[k]? = some f → step h' (.append true k) = h'.frameAppend f := fun hk' => by
    simp only [step, source, if_true, hk']
  have a2 := frameAppend_stores (frameAppend_stores a f) f
  rw [show h2 = _ from (congrArg (step · _) (e hk)).trans (e hk), storedMut_other a2.sep _ _ _ _ (Nat.succ_ne_self _), a2.view,
    a.length, List.append_assoc, List.getElem?_append_right (Nat.le_refl _), Nat.sub_self]
  rfl

def pt1 : Point := { name := [80], x := 1, y := 2, z := 3, r := 0 }
def shared0 : Heap := (({} : Heap).callerMk { pts := [pt1] }).frameAppendShared { pts := 0, subs := 0 }

/-- without the clone (`frameAppendShared`) a caller's edit after the hand-over changes what the object stores -/
theorem shared_push_breaks : (shared0.callerMutP 0 (fun _ => [])).view ≠ shared0.view := by decide
/-- and the state it produced is exactly one `Sep` excludes -/
theorem shared_push_not_sep : ¬ Sep shared0 := by
  intro s
  exact s.apartP { pts := 0, subs := 0 } (by decide) { pts := 0, subs := 0 } (by decide) rfl

/-- non-vacuity: a reachable state with a re-handed, self-handed and edited frame -/
example : (([.mk { pts := [pt1] }, .append true 0, .append true 0, .at_ false 0 3, .cmutP 0 (fun _ => []),
            .pcols [[pt1], [pt1], [pt1], [pt1]]] : List Op).foldl step {}).view
    = [{ pts := [pt1, pt1] }, { pts := [pt1, pt1] }, { pts := [pt1] }, { pts := [pt1, pt1] }] := by decide

end Ezc3d.C08
