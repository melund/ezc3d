import Ezc3dVerif.Proofs.Codec
/-
  C12 — every integer and float bit pattern is decoded and encoded exactly.
  The code assembles integers by `ret |= byte * (int)pow(0x100, i)` and turns them signed with a half-range test; these
  theorems say that this IS little-endian two's complement (resp. unsigned) for every one- and two-byte input (by the
  OR-is-add argument of `Proofs/Codec.lean`, not by enumeration), that the writers' "low n bytes" are the inverse, and that
  floats are transported bit for bit.
-/
namespace Ezc3d.C12

theorem hex2uint_1 (b : UInt8) : hex2uint [b] = b.toNat := hex2uint_eq [b] (by simp)

theorem hex2uint_2 (a b : UInt8) : hex2uint [a, b] = a.toNat + 256 * b.toNat := hex2uint_eq [a, b] (by simp)

theorem hex2int_1 (b : UInt8) :
    hex2int [b] = if b.toNat < 128 then (b.toNat : Int) else (b.toNat : Int) - 256 := by
  rw [hex2int_eq [b] 1 rfl (by decide), hex2uint_1]
  exact bmod_natCast b.toNat 128 (UInt8.toNat_lt b)

theorem hex2int_2 (a b : UInt8) :
    hex2int [a, b] = if a.toNat + 256 * b.toNat < 32768 then ((a.toNat + 256 * b.toNat : Nat) : Int)
                     else ((a.toNat + 256 * b.toNat : Nat) : Int) - 65536 := by
  have ha : a.toNat < 256 := UInt8.toNat_lt a
  have hb : b.toNat < 256 := UInt8.toNat_lt b
  rw [hex2int_eq [a, b] 2 rfl (by decide), hex2uint_2]
  exact bmod_natCast _ 32768 (by omega)

/-- an unsigned 16-bit header word / count survives write then read -/
theorem le16N_read (n : Nat) (h : n < 65536) : hex2uint (le16N n) = n := by
  rw [le16N, le16_eq, hex2uint_leBytes_nat 2 n (by decide)]
  exact Nat.mod_eq_of_lt h

/-- a byte count / dimension / length survives write then read -/
theorem low8N_read (n : Nat) (h : n < 256) : hex2uint [low8N n] = n := (hex2uint_1 _).trans (low8N_toNat n h)

/-- every 16-bit integer value of an integer parameter survives write then read -/
theorem le16_read (v : Int) (h1 : -32768 ≤ v) (h2 : v < 32768) : hex2int (le16 v) = v := by
  rw [le16_eq, hex2int_leBytes 2 v (by decide)]
  exact Int.bmod_eq_of_le_mul_two (by omega) (by omega)

/-- every 8-bit value of a byte parameter survives write then read -/
theorem low8_read (v : Int) (h1 : -128 ≤ v) (h2 : v < 128) : hex2int [low8 v] = v := by
  rw [low8_eq, hex2int_leBytes 1 v (by decide)]
  exact Int.bmod_eq_of_le_mul_two (by omega) (by omega)

/-- an integer outside the 16-bit range does NOT survive (the capacity limit of C17 is sharp) -/
theorem le16_read_fails : hex2int (le16 32768) ≠ 32768 := by decide

/-- floats: the four bytes written are the four bytes of the pattern, and reading gives it back —
    for every one of the 2^32 patterns (negative zero, denormals, infinities, NaN payloads included) -/
theorem f32_roundtrip (v : UInt32) : f32OfBytes (f32le v) = v := by
  -- `f32OfBytes` spells out the byte sum of `hex2uint_4`, so the read-back of `hex2uint` is turned into a fact about that sum
  have h := hex2uint_leBytes_nat 4 v.toNat (by decide)
  rw [← f32le_eq, f32le, hex2uint_4, Nat.mod_eq_of_lt (UInt32.toNat_lt v)] at h
  unfold f32OfBytes f32le
  simp only [List.getD_cons_zero, List.getD_cons_succ]
  rw [h, UInt32.ofNat_toNat]

theorem f32le_length (v : UInt32) : (f32le v).length = 4 := rfl
theorem le16_length (v : Int) : (le16 v).length = 2 := rfl

example : hex2int [0xFF, 0x7F] = 32767 ∧ hex2int [0x00, 0x80] = -32768 ∧ hex2int [0xFF, 0xFF] = -1 := by decide
example : hex2int [0x80] = -128 ∧ hex2uint [0x80] = 128 ∧ hex2uint [0xFF, 0xFF] = 65535 := by decide
example : f32OfBytes (f32le 0x80000000) = 0x80000000 ∧ f32OfBytes (f32le 0x7FC00001) = 0x7FC00001 := by decide

end Ezc3d.C12
