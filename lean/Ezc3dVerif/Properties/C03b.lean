import Ezc3dVerif.Properties.C02b
import Ezc3dVerif.Properties.C01
/-
  C03 (continued) — the written file byte for byte (`section_bytes`, `header_data_start`, `param_record_bytes`) and what the
  independent decoder, which follows only the file's own pointers, finds in it (`spec_records`, `spec_decode_write`): the
  written file is one of the layouts of `C02.spec_decode_layout` — no leading zeros, the section in block 2, the records in
  the writer's order (`recsOf`).
-/
namespace Ezc3d.C03
open N

/-- the parameter section: start byte, key 0x50, the EXACT number of 512-byte blocks, 84, the records of the groups in order
    (each group record followed by its parameters), then zeros up to the block boundary (at least one: the terminator);
    POINT:DATA_START holds (the low byte of) `section blocks + 2`, the 1-based block where the data start -/
theorem section_bytes (ph : PHeader) (gs : List Group) (ps : Bytes)
    (hok : ∀ g ∈ gs, g.name ≠ [] → GroupRecsOK g) (hd : (gs.map fun g => g.name).Pairwise (· ≠ ·))
    (h : writeParamSection ph gs 512 = .ok ps) :
    ∃ (v : Int) (npad : Nat), 0 ≤ v ∧ v < 256 ∧ 1 ≤ npad ∧
      ps = [low8N ph.start, 0x50, low8 ((ps.length / 512 : Nat) : Int), 84] ++ groupsBytes (gs.map (setDSg v)) 0 ++ List.replicate npad 0 ∧
      ps.length % 512 = 0 ∧ 0 < ps.length ∧ v = ((ps.length / 512 + 2 : Nat) : Int) % 256 :=
  writeParamSection_bytes ph gs ps hok hd h

/-- the header's data-start word and POINT:DATA_START name the same block: the one after the section -/
theorem header_data_start (s : C3D) (b ps : Bytes) (hps : writeParamSection s.ph s.groups 512 = .ok ps) (hb : s.write = .ok b)
    (hmod : ps.length % 512 = 0) :
    b = s.hdr.write ((ps.length / 512 + 2 : Nat) : Int) ++ ps ++ writeData s.frames := by
  unfold C3D.write at hb
  rw [hps] at hb
  rw [← dataStart_block]
  exact (Res.ok.inj hb).symm

/-- the bytes of one parameter record: name length (negative = locked), group id, upper-case name,
    offset = 2 + what follows, type code, dimensions, values, description -/
theorem param_record_bytes (p : Param) (h : RecOK p) (gid : Int) :
    p.write gid false = .ok ((low8 p.nameLen :: low8 gid :: (toUpper p.name ++ (le16N p.offN ++ (low8 p.type.code ::
      (dimBytes p.dims ++ (valBytes p ++ (low8N p.desc.length :: p.desc))))))), none) := by
  rw [Param.write_plain p h gid, Param.recBytes, Param.recTail, List.append_nil]

/-- THE INDEPENDENT DECODER ON THE WRITTEN SECTION: `Spec.decodeRecords` (every record's own offset checked against where the
    record really ends), started after the prologue, walks every record, finds exactly the groups and parameters that
    memory holds — names upper-case, POINT:DATA_START holding the block after the section — and stops at the terminator -/
theorem spec_records (ph : PHeader) (gs : List Group) (ps pre post : Bytes)
    (hok : ∀ g ∈ gs, g.name ≠ [] → GroupRecsOK g) (hd : (gs.map fun g => g.name).Pairwise (· ≠ ·)) (hlen : gs.length ≤ 127)
    (h : writeParamSection ph gs 512 = .ok ps) :
    ∃ (v : Int) (k : Nat), 0 ≤ v ∧ v < 256 ∧ v = ((ps.length / 512 + 2 : Nat) : Int) % 256 ∧ k ≤ ps.length ∧
      Spec.decodeRecords (pre ++ (ps ++ post)) ((pre ++ (ps ++ post)).length + 1) (pre.length + 4) {}
        = some { groups := specGroupsOf (gs.map (setDSg v)) 0, params := specParamsOf (gs.map (setDSg v)) 0,
                 terminated := true, endPos := pre.length + k } := by
  obtain ⟨v, pad, hv0, hv256, hveq, hsec⟩ := writeParamSection_recs ph gs ps hok hd hlen h
  refine ⟨v, 4 + (recsBytes (recsOf (gs.map (setDSg v)) 0)).length + 1, hv0, hv256, hveq, Nat.le.intro hsec.length.symm, ?_⟩
  have hd4 : (pre ++ (ps ++ post)).drop (pre.length + 4) = recsBytes (recsOf (gs.map (setDSg v)) 0) ++ 0 :: (pad ++ post) := by
    rw [← List.drop_drop, List.drop_left]
    conv => lhs; rw [hsec.bytes]
    simp
  rw [decodeRecords_section_of_drop _ hsec.valid hd4, specGroupsR_recsOf, specParamsR_recsOf]
  simp only [Nat.add_assoc]

/-- what an independent reader of the format must find in the file `write` produced -/
def specContent (s : C3D) (psLen k : Nat) : Spec.Content :=
  let v : Int := ((psLen / 512 + 2 : Nat) : Int) % 256
  { leadingZeros := 0, header := specHeader s.hdr (psLen / 512 + 2),
    prologue := [(low8N s.ph.start).toNat, 0x50, (low8 ((psLen / 512 : Nat) : Int)).toNat, 84],
    groups := specGroupsOf (s.groups.map (setDSg v)) 0, params := specParamsOf (s.groups.map (setDSg v)) 0,
    terminated := true, paramEnd := 512 + k, frames := s.frames.map specFrame, dataBytesLeft := 0 }

theorem layoutContent_written (s : C3D) (psLen : Nat) :
    layoutContent s.hdr 0 2 (psLen / 512 + 2) (psLen / 512) (low8N s.ph.start) 0x50
        (recsOf (s.groups.map (setDSg (((psLen / 512 + 2 : Nat) : Int) % 256))) 0) s.frames
      = specContent s psLen (4 + (recsBytes (recsOf (s.groups.map (setDSg (((psLen / 512 + 2 : Nat) : Int) % 256))) 0)).length + 1) := by
  simp only [layoutContent, specContent, specHeaderP_two, specGroupsR_recsOf, specParamsR_recsOf, Nat.zero_add, Nat.add_assoc, Nat.reduceSub, Nat.reduceMul]
  rfl

/-- SAVED FILES DECODE, WITH AN INDEPENDENT READER THAT FOLLOWS ONLY THE FILE'S OWN POINTERS, TO THE CONTENT HELD IN MEMORY:
    on the bytes `write` produced `Spec.decode` (Spec/Format.lean) returns the header counts of memory (first/last frame
    1-based), the groups and parameters of memory in order (names upper-case, lock, type, dimensions, values, description;
    POINT:DATA_START = the block after the section), every frame bit for bit, and nothing is left after the last frame.
    Domain: content within the format's capacity (`HdrOK`, `GroupRecsOK`), distinct group names, the header counting the
    stored frames, frames of the announced shape, at least one point or channel (without any, the header's frame range is
    the recorded finding). The float-format marker is not consulted (`assumeFloat`): see `float_marker_finding`. -/
theorem spec_decode_write (s : C3D) (b ps : Bytes)
    (hps : writeParamSection s.ph s.groups 512 = .ok ps) (hb : s.write = .ok b)
    (hhdr : HdrOK s.hdr)
    (hgok : ∀ g ∈ s.groups, g.name ≠ [] → GroupRecsOK g)
    (hgd : (s.groups.map fun g => g.name).Pairwise (· ≠ ·)) (hglen : s.groups.length ≤ 127)
    (hblocks : ps.length / 512 + 2 < 65536)
    (hne : ¬ (s.hdr.nbPoints = 0 ∧ s.hdr.nbAnalogs = 0))
    (hnf : s.hdr.nbFrames = s.frames.length) (hnfs : s.frames.length ≤ 65536)
    (hshape : ∀ f ∈ s.frames, f.hasShape s.hdr.nbPoints s.hdr.nbAnalogByFrame s.hdr.nbAnalogs) :
    ∃ k, k ≤ ps.length ∧ Spec.decode b true = some (specContent s ps.length k) := by
  obtain ⟨pad, -, hval, -, hseclen, -, hfile⟩ := write_layout s b ps _ _ hps hb hhdr hgok hgd hglen rfl rfl
  refine ⟨4 + (recsBytes (recsOf (s.groups.map (setDSg (((ps.length / 512 + 2 : Nat) : Int) % 256))) 0)).length + 1,
    Nat.le_trans (Nat.le.intro hseclen) (Nat.mul_div_le _ _), ?_⟩
  rw [hfile, C02.spec_decode_layout s.hdr 0 2 _ _ _ _ [] pad _ s.frames hhdr hblocks (Nat.le_refl 2) (by decide) (Nat.add_comm _ 2) rfl
    hval hseclen hne hnf hnfs hshape, layoutContent_written]

/-- the domain of `spec_decode_write`; the driver evaluates it on every saving state of the C03 lanes (op `lwcheck`, which
    prints it as `sd_hyps=`) -/
def SpecDecodeHyps (s : C3D) (b ps : Bytes) : Prop :=
  writeParamSection s.ph s.groups 512 = .ok ps ∧ s.write = .ok b ∧ HdrOK s.hdr ∧
  (∀ g ∈ s.groups, g.name ≠ [] → GroupRecsOK g) ∧ (s.groups.map fun g => g.name).Pairwise (· ≠ ·) ∧ s.groups.length ≤ 127 ∧
  ps.length / 512 + 2 < 65536 ∧ ¬ (s.hdr.nbPoints = 0 ∧ s.hdr.nbAnalogs = 0) ∧
  s.hdr.nbFrames = s.frames.length ∧ s.frames.length ≤ 65536 ∧
  (∀ f ∈ s.frames, f.hasShape s.hdr.nbPoints s.hdr.nbAnalogByFrame s.hdr.nbAnalogs)

instance (s : C3D) (b ps : Bytes) : Decidable (SpecDecodeHyps s b ps) := by unfold SpecDecodeHyps; infer_instance

theorem spec_decode_of_hyps (s : C3D) (b ps : Bytes) (h : SpecDecodeHyps s b ps) :
    ∃ k, k ≤ ps.length ∧ Spec.decode b true = some (specContent s ps.length k) := by
  obtain ⟨hps, hb, hhdr, hgok, hgd, hglen, hblocks, hne, hnf, hnfs, hshape⟩ := h
  exact spec_decode_write s b ps hps hb hhdr hgok hgd hglen hblocks hne hnf hnfs hshape

theorem specDecodeHyps_of_loadWriteHyps (F : FloatOps) (s : C3D) (b ps : Bytes) (pl al : List Bytes)
    (h : LoadWriteHyps F s b ps pl al) (hne : ¬ (s.hdr.nbPoints = 0 ∧ s.hdr.nbAnalogs = 0)) : SpecDecodeHyps s b ps := by
  -- `LoadWriteHyps` asks `GroupRecsOK` of every group (all are named there) and less than 256 blocks
  obtain ⟨hps, hb, hhdr, _, _, hgok, hgd, hglen, hblocks, _, _, hnf, hnfs, _, _, _, _, hshape⟩ := h
  exact ⟨hps, hb, hhdr, fun g hg _ => hgok g hg, hgd, hglen, Nat.lt_trans (Nat.add_lt_add_right hblocks 2) (by decide), hne, hnf, hnfs,
    hshape⟩

/-- non-vacuity: `C01.s0` is inside the domain -/
theorem s0_in_spec_domain : SpecDecodeHyps C01.s0 C01.s0b C01.s0ps :=
  specDecodeHyps_of_loadWriteHyps _ _ _ _ _ _ C01.s0_in_domain (by decide)

example : ∃ k, k ≤ C01.s0ps.length ∧ Spec.decode C01.s0b true = some (specContent C01.s0 C01.s0ps.length k) :=
  spec_decode_of_hyps _ _ _ s0_in_spec_domain

/-- the recorded finding C03 `float_marker`, as a theorem about the writer: an object built through the API keeps
    scale = −1 as an INTEGER, so words 7–8 are FF FF FF FF, which read as the float the format prescribes is a NaN, not
    a negative number: a reader that tests the marker does not take the data for floating point -/
theorem float_marker_finding : Spec.isNegF (scaleBits C3D.init.hdr.scale) = false := by decide

end Ezc3d.C03
