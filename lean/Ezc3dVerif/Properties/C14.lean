import Ezc3dVerif.Properties.C03
/-
  C14 — saving is pure, repeatable and writes only defined bytes (the part that is logic).
  In the model the bytes of a save are a FUNCTION of the object: saving cannot change the object and two saves of equal
  objects are equal by construction. The theorems with content: which fields the bytes do NOT depend on, and that every
  event-label cell is exactly 4 bytes determined by the label (never memory behind a shorter string). That the library's
  bytes ARE this function is what the check establishes on every save (byte-equality with the model, two heap/stack fills,
  two builds, valgrind).
-/
namespace Ezc3d.C14

/-- equal objects give equal files; the saved object is not an output of the function -/
theorem save_deterministic (s1 s2 : C3D) (h : s1 = s2) : s1.write = s2.write := by rw [h]

/-- the bytes do not depend on the in-memory data-start word, the leading-zero count, the parameter
    address or checksum read from a loaded file, nor on the remembered block count: the writer recomputes
    all of them -/
theorem save_ignores_stale_fields (s : C3D) (ds z pa ck nb pck pproc : Nat) :
    ({ s with hdr := { s.hdr with dataStart := ds, zeros := z, paramAddr := pa, checksum := ck },
              ph := { s.ph with nbBlocks := nb, checksum := pck, processor := pproc } } : C3D).write = s.write := by
  unfold C3D.write writeParamSection Header.write
  rfl

/-- an event label cell is exactly 4 bytes: the first four characters of the label, NUL padded -/
theorem label_cell (l : Bytes) : (label4 l).length = 4 ∧ (label4 l).take l.length = l.take 4 ∧
    ∀ i, l.length ≤ i → i < 4 → (label4 l)[i]? = some 0 := by
  refine ⟨C03.label4_length l, ?_, ?_⟩
  · unfold label4
    by_cases h : l.length ≤ 4
    · have : l.take 4 = l := List.take_of_length_le h
      rw [this, List.take_left']
      rfl
    · have h4 : (l.take 4).length = 4 := by simp; omega
      rw [h4]; simp
      rw [List.take_take]; congr 1; omega
  · intro i h1 h2
    unfold label4
    have hl : (l.take 4).length = l.length := by rw [List.length_take]; omega
    rw [List.getElem?_append_right (by omega), hl, List.getElem?_replicate]
    have : i - l.length < 4 - l.length := by omega
    simp [this]

end Ezc3d.C14
