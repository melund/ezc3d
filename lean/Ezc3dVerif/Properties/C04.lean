import Ezc3dVerif.Properties.C01
/-
  C04 — load -> save -> load preserves a file's content; the second save is byte-identical. Proved on the model from the
  second generation on (an object `load` returned for the bytes of a `write`). The first generation (an arbitrary vendor
  file: leading zeros, other block addresses, records in any order, 1-D strings, sparse ids) rests on the correspondence
  check with content comparison as oracle.
-/
namespace Ezc3d.C04

/-- saving the object `load` returned for the bytes of a `write` gives exactly those bytes again … -/
theorem resave_byte_identical (s : C3D) (n : Nat) (pl al : List Bytes) (hstart : s.ph.start = 1)
    (hst : ∀ g ∈ s.groups, GroupNameStable g) : (s.reloaded n pl al).write = s.write :=
  write_reloaded s n pl al hstart hst

/-- … hence loading them gives that object again -/
theorem generations_stable (F : FloatOps) (s : C3D) (b ps : Bytes) (pl al : List Bytes) (h : LoadWriteHyps F s b ps pl al)
    (hst : ∀ g ∈ s.groups, GroupNameStable g) :
    ∃ s', C3D.load F b = .ok s' ∧ s'.write = .ok b :=
  ⟨_, (C01.second_generation F s b ps pl al h hst).2, (C01.second_generation F s b ps pl al h hst).1⟩

/-- the name condition holds for every name that is already upper-case (what a file holds) -/
theorem nameStable_of_upper (p : Param) (h : toUpper p.name = p.name) : NameStable p := by
  unfold NameStable; rw [h]

example : ∀ g ∈ C01.s0.groups, GroupNameStable g := by decide +kernel

end Ezc3d.C04
