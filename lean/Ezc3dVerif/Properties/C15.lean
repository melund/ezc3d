import Ezc3dVerif.Model.SaveIO
/-
  C15 — a save that did not reach the disk is reported (the part that is logic).
  `C3D.saveTo` models c3d::write against a destination that cannot be opened, or that stops accepting bytes after `budget`
  bytes: saving returns normally EXACTLY when the destination took every byte the save hands to the operating system, and
  otherwise throws the I/O failure class. The check ties this to the library by interposing write(2)/writev(2) at every
  budget k; delayed write-back errors after close() are outside the model.
-/
namespace Ezc3d.C15

theorem unopenable_throws (s : C3D) : s.saveTo .unopenable = .throw .ios_failure := rfl

/-- normal return iff complete content accepted -/
theorem saveTo_ok_iff (s : C3D) (budget : Nat) :
    s.saveTo (.accepts budget) = .ok true ↔ ∃ file, s.write = .ok file ∧ writeCallBytes s file ≤ budget := by
  unfold C3D.saveTo
  cases hw : s.write with
  | ok file =>
    simp only [Res.bind_ok]
    constructor
    · intro h; split at h
      · exact ⟨file, rfl, by assumption⟩
      · cases h
    · rintro ⟨f, hf, hle⟩; cases hf; simp [hle]
  | throw e => simp
  | ub k => simp

/-- a fault at any offset before the end is reported as an I/O failure -/
theorem saveTo_fault_throws (s : C3D) (budget : Nat) (file : Bytes) (hw : s.write = .ok file)
    (hk : budget < writeCallBytes s file) : s.saveTo (.accepts budget) = .throw .ios_failure := by
  unfold C3D.saveTo
  simp only [hw, Res.bind_ok]
  have : ¬ writeCallBytes s file ≤ budget := by omega
  simp [this]

/-- saving never reports success with `false`, and never any other exception class than the I/O failure
    (on objects the writer can serialise) -/
theorem saveTo_outcomes (s : C3D) (sink : Sink) (file : Bytes) (hw : s.write = .ok file) :
    s.saveTo sink = .ok true ∨ s.saveTo sink = .throw .ios_failure := by
  cases sink with
  | unopenable => right; rfl
  | accepts b =>
    unfold C3D.saveTo
    simp only [hw, Res.bind_ok]
    split
    · left; rfl
    · right; rfl

/-- more room never turns a successful save into a failure -/
theorem saveTo_mono (s : C3D) (b1 b2 : Nat) (h : b1 ≤ b2) (hok : s.saveTo (.accepts b1) = .ok true) :
    s.saveTo (.accepts b2) = .ok true := by
  obtain ⟨file, hw, hle⟩ := (saveTo_ok_iff s b1).mp hok
  exact (saveTo_ok_iff s b2).mpr ⟨file, hw, by omega⟩

theorem writeCallBytes_ge (s : C3D) (file : Bytes) : file.length ≤ writeCallBytes s file := by
  unfold writeCallBytes; omega

/-- a destination that cannot even hold the file always makes the save throw -/
theorem saveTo_short_throws (s : C3D) (budget : Nat) (file : Bytes) (hw : s.write = .ok file)
    (hk : budget < file.length) : s.saveTo (.accepts budget) = .throw .ios_failure :=
  saveTo_fault_throws s budget file hw (by have := writeCallBytes_ge s file; omega)

end Ezc3d.C15
