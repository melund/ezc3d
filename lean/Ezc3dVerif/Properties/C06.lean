import Ezc3dVerif.Proofs.ByName
import Ezc3dVerif.Proofs.Updaters
import Ezc3dVerif.Proofs.Guarded
/-
  C06 — adding a frame appends, replaces or extends exactly as documented; column adders change
  every frame by exactly that column.  For every data-set size, every index, every frame content.
-/
namespace Ezc3d.C06

theorem frame_ok_frames {F : FloatOps} {s s' : C3D} {f : Frame} {idx : Nat}
    (h : s.frame F f idx = .ok s') : dataFrame s.frames f idx = .ok s'.frames := by
  obtain ⟨fr, _, _, ⟨hfr, rfl, rfl⟩, he⟩ := (frame_mutates F s f idx).of_ok h
  rw [hfr, updateParameters_frames (he ▸ h)]

/-- without an index the data set grows by one frame holding exactly the given frame -/
theorem frame_append {F : FloatOps} {s s' : C3D} {f : Frame}
    (h : s.frame F f SIZE_MAX = .ok s') : s'.frames = s.frames ++ [f] := by
  have := frame_ok_frames h
  simp [dataFrame] at this
  exact this.symm

theorem frame_setAt {F : FloatOps} {s s' : C3D} {f : Frame} {idx : Nat} (hs : idx ≠ SIZE_MAX)
    (h : s.frame F f idx = .ok s') : s'.frames = setAt {} s.frames idx f := by
  have := frame_ok_frames h
  rw [dataFrame, if_neg hs] at this
  split at this
  · cases this
  · exact (Res.ok.inj this).symm

/-- with an index below the frame count it replaces that frame … -/
theorem frame_replace {F : FloatOps} {s s' : C3D} {f : Frame} {idx : Nat}
    (hi : idx < s.frames.length) (hs : idx ≠ SIZE_MAX)
    (h : s.frame F f idx = .ok s') : s'.frames = s.frames.set idx f := by
  rw [frame_setAt hs h, setAt, if_pos hi]

/-- … with an index at or beyond the count it extends the data set to idx+1 frames, stores the frame
    there and leaves the frames in between empty -/
theorem frame_extend {F : FloatOps} {s s' : C3D} {f : Frame} {idx : Nat}
    (hi : s.frames.length ≤ idx) (hs : idx ≠ SIZE_MAX)
    (h : s.frame F f idx = .ok s') :
    s'.frames = s.frames ++ (List.replicate (idx - s.frames.length) ({} : Frame) ++ [f]) := by
  rw [frame_setAt hs h, setAt, if_neg (Nat.not_lt.mpr hi)]

theorem frame_extend_length {F : FloatOps} {s s' : C3D} {f : Frame} {idx : Nat}
    (hi : s.frames.length ≤ idx) (hs : idx ≠ SIZE_MAX)
    (h : s.frame F f idx = .ok s') : s'.frames.length = idx + 1 := by
  rw [frame_extend hi hs h]; simp; omega

/-- in all three cases every previously stored frame other than the target is unchanged -/
theorem frame_others_unchanged {F : FloatOps} {s s' : C3D} {f : Frame} {idx : Nat}
    (h : s.frame F f idx = .ok s') (j : Nat) (hj : j < s.frames.length) (hne : j ≠ idx) :
    s'.frames[j]? = s.frames[j]? := by
  by_cases hs : idx = SIZE_MAX
  · subst hs; rw [frame_append h, List.getElem?_append_left hj]
  · rw [frame_setAt hs h, getElem?_setAt_of_ne _ _ _ _ hj hne]

/-- the target holds exactly the given frame -/
theorem frame_target {F : FloatOps} {s s' : C3D} {f : Frame} {idx : Nat} (hs : idx ≠ SIZE_MAX)
    (h : s.frame F f idx = .ok s') : s'.frames[idx]? = some f := by
  rw [frame_setAt hs h, getElem?_setAt_self]

/-- a successful point-column add appends, to every stored frame, exactly the supplied columns
    (as many as the first supplied frame has) and changes nothing else -/
theorem pointCols_frames {F : FloatOps} {s s' : C3D} {frames : List Frame}
    (h : s.pointCols F frames = .ok s') :
    ∃ f0 rest, frames = f0 :: rest ∧ f0.pts.length ≠ 0 ∧ frames.length = s.frames.length ∧
      s'.frames = List.zipWith (fun st fr => { st with pts := st.pts ++ fr.pts.take f0.pts.length }) s.frames frames := by
  obtain ⟨_, _, _, ⟨⟨f0, rest, hf, hlen, hne, rfl⟩, rfl, rfl⟩, he⟩ := (pointCols_mutates F s frames).of_ok h
  exact ⟨f0, rest, hf, hne, hlen, updateParameters_frames (he ▸ h)⟩

theorem zipWith_replicate_right {α β γ} (f : α → β → γ) (l : List α) (b : β) :
    List.zipWith f l (List.replicate l.length b) = l.map (f · b) := by
  induction l with
  | nil => rfl
  | cons a t ih => simp [List.replicate_succ, ih]

/-- adding one point by name to a data set adds it exactly once to every frame, everything else in
    every frame unchanged -/
theorem point_frames {F : FloatOps} {s s' : C3D} {name : Bytes} (hn : s.frames.length > 0)
    (h : s.point F name = .ok s') :
    s'.frames = s.frames.map fun st => { st with pts := st.pts ++ [Point.setName {} name] } := by
  unfold C3D.point at h
  rw [if_pos hn] at h
  obtain ⟨f0, rest, heq, _, _, hz⟩ := pointCols_frames h
  obtain ⟨m, hm⟩ := Nat.exists_eq_succ_of_ne_zero (Nat.ne_of_gt hn)
  rw [hm, List.replicate_succ] at heq
  obtain rfl := (List.cons.inj heq).1
  rw [hz, zipWith_replicate_right]
  rfl

end Ezc3d.C06
