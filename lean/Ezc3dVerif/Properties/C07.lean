import Ezc3dVerif.Proofs.Updaters
/-
  C07 — frame-adding calls enforce their documented preconditions.
  One must-refuse theorem (with the exception class) per documented condition; the must-accept theorems are `frame_ok_iff`
  from right to left under `Mand s.groups`, which makes the updaters past the guards complete. Same for the column adders.
-/
namespace Ezc3d.C07
open N

theorem frame_ok_iff {F : FloatOps} {s s' : C3D} {f : Frame} {idx : Nat} :
    s.frame F f idx = .ok s' ↔
      ∃ used, int0 s.groups POINT USED = .ok used ∧ ¬ (intToU64 used ≠ 0 ∧ f.pts.length ≠ intToU64 used) ∧
      ∃ labels, strsOf s.groups POINT LABELS = .ok labels ∧ ¬ labelMissing labels f.pts = true ∧
      ∃ pz, (if f.pts.length > 0 then (float0 s.groups POINT RATE).map isZeroF else .ok false) = .ok pz ∧ ¬ pz = true ∧
      ∃ az, (if f.subs.length > 0 then (float0 s.groups ANALOG RATE).map isZeroF else .ok false) = .ok az ∧ ¬ az = true ∧
      ∃ aused, int0 s.groups ANALOG USED = .ok aused ∧ ¬ chanMismatch f (intToU64 aused) s.hdr.nbAnalogByFrame = true ∧
      ¬ outOfOrder labels f.pts = true ∧
      ∃ fr, dataFrame s.frames f idx = .ok fr ∧ updateParameters F { s with frames := fr } = .ok s' := by
  simp only [C3D.frame, Res.andThen_ok_iff, Outcome.ite_throw_eq_ok_iff]

theorem countGuard_pass {u n : Nat} (h : u = 0 ∨ n = u) : ¬ (u ≠ 0 ∧ n ≠ u) :=
  fun hh => h.elim hh.1 hh.2

theorem labelMissing_iff {labels : List Bytes} {pts : List Point} :
    labelMissing labels pts = true ↔ ∃ l ∈ labels, ∀ p ∈ pts, p.name ≠ l := by
  simp only [labelMissing, List.any_eq_true, Bool.not_eq_true', List.any_eq_false, beq_iff_eq, ne_eq]

theorem labelMissing_false (labels : List Bytes) (pts : List Point) (hall : ∀ l ∈ labels, ∃ p ∈ pts, p.name = l) :
    labelMissing labels pts = false :=
  Bool.eq_false_iff.mpr fun h =>
    let ⟨l, hl, hm⟩ := labelMissing_iff.mp h
    let ⟨p, hp, hn⟩ := hall l hl
    hm p hp hn

theorem rateGuard_pass {n : Nat} {r : Res UInt32} (h : n > 0 → ∃ x, r = .ok x ∧ isZeroF x = false) :
    (if n > 0 then r.map isZeroF else .ok false) = .ok false := by
  split
  · obtain ⟨x, rfl, hx⟩ := h ‹_›; simp [Res.map, hx]
  · rfl

theorem rateGuard_fire {n : Nat} {r : Res UInt32} {x : UInt32} (hn : n > 0) (hr : r = .ok x) (hx : isZeroF x = true) :
    (if n > 0 then r.map isZeroF else .ok false) = .ok true := by
  simp [hn, hr, Res.map, hx]

theorem outOfOrder_map_name (pts : List Point) : outOfOrder (pts.map (·.name)) pts = false := by
  induction pts with
  | nil => rfl
  | cons p t ih => simp [outOfOrder, ih]

theorem dataFrame_completes (fs : List Frame) (f : Frame) {idx : Nat} (h : idx = SIZE_MAX ∨ idx + 1 ≤ maxFrames) :
    ∃ fr, dataFrame fs f idx = .ok fr := by
  unfold dataFrame
  split
  · exact ⟨_, rfl⟩
  · rw [if_neg fun hc => Nat.not_lt.mpr (h.resolve_left ‹_›) hc.2]; exact ⟨_, rfl⟩

/-- point count differs from a non-zero POINT:USED → runtime error, object untouched -/
theorem frame_refuses_point_count (F : FloatOps) (s : C3D) (f : Frame) (idx : Nat) (used : Int)
    (hu : int0 s.groups POINT USED = .ok used) (h0 : intToU64 used ≠ 0) (hne : f.pts.length ≠ intToU64 used) :
    s.frame F f idx = .throw .runtime_error s := by
  simp only [C3D.frame, hu, Res.andThen_ok, h0, hne, ne_eq, not_false_eq_true, and_self, if_true]

/-- a label of POINT:LABELS is missing from the frame → invalid argument -/
theorem frame_refuses_missing_label (F : FloatOps) (s : C3D) (f : Frame) (idx : Nat) (used : Int) (labels : List Bytes)
    (hu : int0 s.groups POINT USED = .ok used) (hc : intToU64 used = 0 ∨ f.pts.length = intToU64 used)
    (hl : strsOf s.groups POINT LABELS = .ok labels) (l : Bytes) (hmem : l ∈ labels) (hmiss : ∀ p ∈ f.pts, p.name ≠ l) :
    s.frame F f idx = .throw .invalid_argument s := by
  simp only [C3D.frame, hu, Res.andThen_ok, countGuard_pass hc, if_false, hl, labelMissing_iff.mpr ⟨l, hmem, hmiss⟩, if_true]

/-- the frame carries points while POINT:RATE is 0 → runtime error -/
theorem frame_refuses_point_rate_zero (F : FloatOps) (s : C3D) (f : Frame) (idx : Nat) (used : Int)
    (labels : List Bytes) (rate : UInt32)
    (hu : int0 s.groups POINT USED = .ok used) (hc : intToU64 used = 0 ∨ f.pts.length = intToU64 used)
    (hl : strsOf s.groups POINT LABELS = .ok labels) (hall : ∀ l ∈ labels, ∃ p ∈ f.pts, p.name = l)
    (hp : f.pts.length > 0) (hr : float0 s.groups POINT RATE = .ok rate) (hz : isZeroF rate = true) :
    s.frame F f idx = .throw .runtime_error s := by
  simp only [C3D.frame, hu, Res.andThen_ok, countGuard_pass hc, if_false, hl, labelMissing_false labels f.pts hall,
    Bool.false_eq_true, rateGuard_fire hp hr hz, if_true]

/-- the frame carries analog samples while ANALOG:RATE is 0 → runtime error -/
theorem frame_refuses_analog_rate_zero (F : FloatOps) (s : C3D) (f : Frame) (idx : Nat) (used : Int)
    (labels : List Bytes) (arate : UInt32)
    (hu : int0 s.groups POINT USED = .ok used) (hc : intToU64 used = 0 ∨ f.pts.length = intToU64 used)
    (hl : strsOf s.groups POINT LABELS = .ok labels) (hall : ∀ l ∈ labels, ∃ p ∈ f.pts, p.name = l)
    (hpr : f.pts.length = 0 ∨ ∃ r, float0 s.groups POINT RATE = .ok r ∧ isZeroF r = false)
    (hs : f.subs.length > 0) (hr : float0 s.groups ANALOG RATE = .ok arate) (hz : isZeroF arate = true) :
    s.frame F f idx = .throw .runtime_error s := by
  simp only [C3D.frame, hu, Res.andThen_ok, countGuard_pass hc, if_false, hl, labelMissing_false labels f.pts hall,
    Bool.false_eq_true, rateGuard_pass (hpr.resolve_left ∘ Nat.ne_of_gt), rateGuard_fire hs hr hz, if_true]

theorem chanMismatch_of_count (f : Frame) (sf0 : SubFrame) (rest : List SubFrame) (n nabf : Nat)
    (hs : f.subs = sf0 :: rest) (hn : n ≠ 0) (hne : sf0.length ≠ n) : chanMismatch f n nabf = true := by
  unfold chanMismatch
  simp [hs, hn, hne]

theorem chanMismatch_no_subs (f : Frame) (n nabf : Nat) (hs : f.subs = []) : chanMismatch f n nabf = false := by
  unfold chanMismatch; simp [hs]

theorem frame_accepts_of (F : FloatOps) (s : C3D) (f : Frame) {idx : Nat} (hM : Mand s.groups)
    {used aused : Int} {labels : List Bytes}
    (hu : int0 s.groups POINT USED = .ok used) (hc : intToU64 used = 0 ∨ f.pts.length = intToU64 used)
    (hl : strsOf s.groups POINT LABELS = .ok labels) (hlm : labelMissing labels f.pts = false)
    (hpr : f.pts.length > 0 → ∃ x, float0 s.groups POINT RATE = .ok x ∧ isZeroF x = false)
    (har : f.subs.length > 0 → ∃ x, float0 s.groups ANALOG RATE = .ok x ∧ isZeroF x = false)
    (hau : int0 s.groups ANALOG USED = .ok aused)
    (hch : chanMismatch f (intToU64 aused) s.hdr.nbAnalogByFrame = false) (hoo : outOfOrder labels f.pts = false)
    (hidx : idx = SIZE_MAX ∨ idx + 1 ≤ maxFrames) :
    ∃ s', s.frame F f idx = .ok s' := by
  obtain ⟨fr, hfr⟩ := dataFrame_completes s.frames f hidx
  obtain ⟨g, hd, hok, _⟩ := updateParameters_ok_of_Mand F (s := { s with frames := fr }) hM [] [] (by simp)
  -- one line per stage of `frame_ok_iff`: the value read, its look-up, the guard it feeds
  exact ⟨_, frame_ok_iff.mpr
    ⟨used, hu, countGuard_pass hc,
     labels, hl, by simp [hlm],
     false, rateGuard_pass hpr, by simp,
     false, rateGuard_pass har, by simp,
     aused, hau, by simp [hch],
     by simp [hoo],
     fr, hfr, hok⟩⟩

/-- a frame that matches the declared names (in order), counts and rates is accepted -/
theorem frame_accepts (F : FloatOps) (s : C3D) (f : Frame) (idx : Nat) (hM : Mand s.groups)
    (used aused : Int) (labels : List Bytes) (prate arate : UInt32)
    (hu : int0 s.groups POINT USED = .ok used) (hl : strsOf s.groups POINT LABELS = .ok labels)
    (hpr : float0 s.groups POINT RATE = .ok prate) (har : float0 s.groups ANALOG RATE = .ok arate)
    (hau : int0 s.groups ANALOG USED = .ok aused)
    (hnames : f.pts.map (·.name) = labels) (hcount : f.pts.length = intToU64 used)
    (hprz : f.pts.length > 0 → isZeroF prate = false) (harz : f.subs.length > 0 → isZeroF arate = false)
    (hch : chanMismatch f (intToU64 aused) s.hdr.nbAnalogByFrame = false)
    (hidx : idx = SIZE_MAX ∨ idx + 1 ≤ maxFrames) :
    ∃ s', s.frame F f idx = .ok s' := by
  subst hnames
  exact frame_accepts_of F s f hM hu (.inr hcount) hl (labelMissing_false _ _ fun l hl' => by simpa using hl')
    (fun h => ⟨_, hpr, hprz h⟩) (fun h => ⟨_, har, harz h⟩) hau hch (outOfOrder_map_name _) hidx

theorem frameCount_pass {α} {a : α} {l : List α} {n : Nat} (h : (a :: l).length = n) :
    ¬ ((a :: l).length = 0 ∨ (a :: l).length ≠ n) :=
  fun hh => hh.elim (by simp) (· h)

theorem mem_enum {α} {l : List α} {a : α} (h : a ∈ l) : ∃ i, (i, a) ∈ enum l := by
  obtain ⟨i, hi, rfl⟩ := List.getElem_of_mem h
  exact ⟨i, List.mem_iff_getElem.mpr ⟨i, by simp [enum, hi], by simp [enum]⟩⟩

/-- the number of frames supplied differs from the data set, or nothing is supplied → invalid argument -/
theorem pointCols_refuses_frame_count (F : FloatOps) (s : C3D) (frames : List Frame)
    (h : frames.length = 0 ∨ frames.length ≠ s.frames.length) : s.pointCols F frames = .throw .invalid_argument s := by
  unfold C3D.pointCols; rw [if_pos h]

theorem analogCols_refuses_frame_count (F : FloatOps) (s : C3D) (frames : List Frame)
    (h : frames.length = 0 ∨ frames.length ≠ s.frames.length) : s.analogCols F frames = .throw .invalid_argument s := by
  unfold C3D.analogCols; rw [if_pos h]

/-- a new point name that already exists (in any position of the new columns) → invalid argument -/
theorem pointCols_refuses_existing_name (F : FloatOps) (s : C3D) (f0 : Frame) (rest : List Frame) (labels : List Bytes)
    (hlen : (f0 :: rest).length = s.frames.length) (hne : f0.pts.length ≠ 0)
    (hl : strsOf s.groups POINT LABELS = .ok labels) (p : Point) (hp : p ∈ f0.pts) (hex : p.name ∈ labels) :
    s.pointCols F (f0 :: rest) = .throw .invalid_argument s := by
  obtain ⟨i, hi⟩ := mem_enum hp
  have hck : checkPointCols labels (f0 :: rest) (enum f0.pts) = some .invalid_argument := by
    rw [checkPointCols, if_pos (List.any_eq_true.mpr ⟨(i, p), hi, by simpa using hex⟩)]
  simp only [C3D.pointCols, if_neg (frameCount_pass hlen), hne, if_false, hl, Res.andThen_ok, hck]

/-- sub-frame count differs from the data set → invalid argument -/
theorem analogCols_refuses_subframe_count (F : FloatOps) (s : C3D) (f0 : Frame) (rest : List Frame)
    (hlen : (f0 :: rest).length = s.frames.length) (hns : f0.subs.length ≠ s.hdr.nbAnalogByFrame) :
    s.analogCols F (f0 :: rest) = .throw .invalid_argument s := by
  simp only [C3D.analogCols, if_neg (frameCount_pass hlen), hns, ne_eq, not_false_eq_true, if_true]

end Ezc3d.C07
