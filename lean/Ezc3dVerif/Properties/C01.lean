import Ezc3dVerif.Proofs.Resave
/-
  C01 — build -> save -> load returns the same content. `load_write`: for every object inside `LoadWriteHyps`, `C3D.load`
  of the bytes `C3D.write` produced returns `C3D.reloaded`; the `reloaded_*` theorems say what `reloaded` is, clause by
  clause of the property. The domain is decidable: the driver evaluates it on the states the correspondence check visits
  (`lwcheck`), and `s0_in_domain` exhibits a state inside it. Outside it (names that collide after upper-casing, content
  beyond the capacity limits of C17, a header that disagrees with the parameters, incomplete frames) the property rests on
  the correspondence check and the oracle; the recorded findings lie there.
-/
namespace Ezc3d.C01
open N

/-- BUILD -> SAVE -> LOAD on the model, every object of the domain -/
theorem load_write (F : FloatOps) (s : C3D) (b ps : Bytes) (pl al : List Bytes) (h : LoadWriteHyps F s b ps pl al) :
    C3D.load F b = .ok (s.reloaded ps.length pl al) := by
  obtain ⟨hps, hb, hhdr, hstart, hgn, hgok, hgd, hglen, hblocks, hsmall, hstable, hnf, hnfs, hpl, hal, hscale, hna, hshape⟩ := h
  exact Ezc3d.load_write F s b ps pl al hps hb hhdr hstart hgn hgok hgd hglen hblocks hsmall hstable hnf hnfs hpl hal hscale hna hshape

/-- header counts, first/last frame, rate, events of the loaded object equal those of the saved one -/
theorem reloaded_header (s : C3D) (n : Nat) (pl al : List Bytes) :
    let h' := (s.reloaded n pl al).hdr
    h'.nbPoints = s.hdr.nbPoints ∧ h'.nbAnalogsMeas = s.hdr.nbAnalogsMeas ∧ h'.nbAnalogByFrame = s.hdr.nbAnalogByFrame ∧
    h'.firstFrame = s.hdr.firstFrame ∧ h'.lastFrame = s.hdr.lastFrame ∧ h'.rate = s.hdr.rate ∧
    h'.nbFrames = s.hdr.nbFrames ∧ h'.nbAnalogs = s.hdr.nbAnalogs ∧ h'.nbEvents = s.hdr.nbEvents ∧
    h'.evTimes = s.hdr.evTimes ∧ h'.evDisplay = s.hdr.evDisplay ∧ h'.evLabels = s.hdr.evLabels :=
  ⟨rfl, rfl, rfl, rfl, rfl, rfl, rfl, rfl, rfl, rfl, rfl, rfl⟩

/-- as many groups, in the same order, each with its name upper-cased, its description and its lock flag -/
theorem reloaded_groups (s : C3D) (n : Nat) (pl al : List Bytes) :
    (s.reloaded n pl al).groups.map (fun g => (g.name, g.desc, g.locked, g.params.length))
      = s.groups.map (fun g => (toUpper g.name, g.desc, g.locked, g.params.length)) := by
  unfold C3D.reloaded
  simp only [List.map_map]
  apply List.map_congr_left
  intro g _
  simp only [Function.comp, setDSg, Group.normG]
  by_cases hp : g.name = POINT <;> simp [hp]

/-- a parameter other than the blank one comes back with its name upper-cased and the same type, dimensions,
    description, lock flag and values -/
theorem reloaded_param (v : Int) (p : Param) (h : ¬ isDS p) :
    let q := (setDSp v p).norm
    q.name = toUpper p.name ∧ q.type = p.type ∧ q.dims = p.dims ∧ q.desc = p.desc ∧ q.locked = p.locked ∧
    (p.type = .int ∨ p.type = .byte → q.ints = p.ints) ∧ (p.type = .float → q.floats = p.floats) ∧ (p.type = .char → q.strs = p.strs) := by
  rw [setDSp_not v p h]
  refine ⟨rfl, rfl, rfl, rfl, rfl, ?_, ?_, ?_⟩
  · intro ht; unfold Param.norm; rcases ht with ht | ht <;> simp [ht]
  · intro ht; unfold Param.norm; simp [ht]
  · intro ht; unfold Param.norm; simp [ht]

/-- ... and the blank one (POINT:DATA_START) holds the block where the data start, its other fields unchanged -/
theorem reloaded_data_start (v : Int) (p : Param) (h : isDS p) :
    (setDSp v p).norm.ints = [v] ∧ (setDSp v p).norm.type = .int ∧ (setDSp v p).norm.dims = p.dims ∧ (setDSp v p).norm.name = toUpper p.name := by
  unfold setDSp Param.norm
  simp [h, h.2.1]

/-- every point keeps x, y, z and residual bit for bit, every analog sample its value, at the same
    (frame, position) and (frame, sub-frame, channel) -/
theorem reloaded_samples (s : C3D) (n : Nat) (pl al : List Bytes) :
    (s.reloaded n pl al).frames.map (fun f => (f.pts.map (fun p => (p.x, p.y, p.z, p.r)), f.subs.map (fun sf => sf.map (·.v))))
      = s.frames.map (fun f => (f.pts.map (fun p => (p.x, p.y, p.z, p.r)), f.subs.map (fun sf => sf.map (·.v)))) := by
  unfold C3D.reloaded relabelFrame
  simp only [List.map_map, Function.comp_def, relabelPts_map (fun p => (p.x, p.y, p.z, p.r)) (fun _ _ => rfl), relabelChs_map (·.v) (fun _ _ => rfl)]

/-- when the stored names are the ones the loader derives from the label parameters, the frames come back identical -/
theorem reloaded_frames_identical (s : C3D) (n : Nat) (pl al : List Bytes)
    (hp : ∀ f ∈ s.frames, ∀ k (h : k < f.pts.length), f.pts[k].name = pointName pl (0 + k))
    (hc : ∀ f ∈ s.frames, ∀ sf ∈ f.subs, ∀ k (h : k < sf.length), sf[k].name = channelName al (0 + k)) :
    (s.reloaded n pl al).frames = s.frames := by
  unfold C3D.reloaded
  rw [show s.frames.map (relabelFrame pl al) = s.frames.map id from List.map_congr_left (fun f hf => by
    unfold relabelFrame
    rw [relabelPts_id pl f.pts 0 (hp f hf)]
    have : f.subs.map (relabelChs al 0) = f.subs.map id := List.map_congr_left (fun sf hsf => relabelChs_id al sf 0 (hc f hf sf hsf))
    rw [this, List.map_id]; rfl), List.map_id]

/-- saving the loaded object again writes the very same bytes -/
theorem resave_same_bytes (s : C3D) (n : Nat) (pl al : List Bytes) (hstart : s.ph.start = 1)
    (hst : ∀ g ∈ s.groups, GroupNameStable g) : (s.reloaded n pl al).write = s.write :=
  write_reloaded s n pl al hstart hst

theorem second_generation (F : FloatOps) (s : C3D) (b ps : Bytes) (pl al : List Bytes) (h : LoadWriteHyps F s b ps pl al)
    (hst : ∀ g ∈ s.groups, GroupNameStable g) :
    (s.reloaded ps.length pl al).write = .ok b ∧ C3D.load F b = .ok (s.reloaded ps.length pl al) :=
  ⟨by rw [resave_same_bytes s ps.length pl al h.2.2.2.1 hst]; exact h.2.1, load_write F s b ps pl al h⟩

/-- a float model good enough to exhibit a state (no theorem depends on it) -/
def F0 : FloatOps := { rateKey := fun b => b.toNat, truncNat := fun b => b.toNat, ratioNat := fun a b => a.toNat / (b.toNat + 1) }

/-- covers: a locked group with a description, parameters of type int, float, char (table and single string) and byte
    (2 x 2, value -128), a locked parameter, coordinates -0, a NaN payload and denormals -/
def s0 : C3D :=
  { hdr := { nbPoints := 1, firstFrame := 0, lastFrame := 1, rate := 0x42C80000 },
    groups :=
      [ { name := POINT, locked := true, desc := [100, 101],
          params := [ { name := USED, locked := true, type := .int, dims := [1], ints := [1] },
                      { name := RATE, type := .float, dims := [1], floats := [0x42C80000] },
                      { name := DATA_START, type := .int, dims := [1], ints := [0] },
                      { name := FRAMES, type := .int, dims := [1], ints := [2] },
                      { name := LABELS, type := .char, dims := [4, 1], strs := [[80, 49]], desc := [108] } ] },
        { name := ANALOG, params := [] },
        { name := [120, 121], params := [ { name := [97], type := .byte, dims := [2, 2], ints := [1, -2, 3, -128] },
                                           { name := [98], type := .char, dims := [3], strs := [[65, 66]] } ] } ],
    frames := [ { pts := [ { name := [80, 49], x := 0x3F800000, y := 0x80000000, z := 0x7FC00001, r := 0xBF800000 } ], subs := [] },
                { pts := [ { name := [80, 49], x := 1, y := 2, z := 3, r := 0 } ], subs := [] } ] }

def s0ps : Bytes := match writeParamSection s0.ph s0.groups 512 with | .ok ps => ps | _ => []
def s0b : Bytes := match s0.write with | .ok b => b | _ => []

theorem s0ps_length : s0ps.length = 512 := by decide +kernel

theorem s0_section : writeParamSection s0.ph s0.groups 512 = .ok s0ps := by
  -- `s0ps` is `[]` if the writer fails: its length shows it did not
  have h := s0ps_length
  unfold s0ps at h ⊢
  split at h
  · next heq => rw [heq]
  · cases h

theorem s0_write : s0.write = .ok s0b := by
  unfold s0b C3D.write
  rw [s0_section]
  rfl

theorem s0b_length : s0b.length = 1056 := by
  obtain ⟨ps, hps, -, -, hl⟩ := C03.file_layout s0 s0b ⟨rfl, rfl, rfl⟩ s0_write
  cases s0_section.symm.trans hps
  rw [hl, s0ps_length]
  decide +kernel

theorem s0_in_domain : LoadWriteHyps F0 s0 s0b s0ps [[80, 49]] [] := by
  refine ⟨s0_section, s0_write, ?_⟩
  rw [s0b_length, s0ps_length]
  decide +kernel

example : C3D.load F0 s0b = .ok (s0.reloaded s0ps.length [[80, 49]] []) := load_write F0 s0 s0b s0ps _ _ s0_in_domain
example : s0b.length = 1056 ∧ s0ps.length = 512 := ⟨s0b_length, s0ps_length⟩

end Ezc3d.C01
