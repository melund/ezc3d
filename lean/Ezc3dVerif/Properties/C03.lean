import Ezc3dVerif.Model.Write
import Ezc3dVerif.Proofs.Outcome
/-
  C03 — saved files are valid, self-consistent C3D: the shape of what the model's writer emits (the check compares the
  library's bytes with the model's on every save and decodes them with the independent Spec decoder). The padding /
  block-count arithmetic is proved for an arbitrary section length, i.e. for all 512 residues at once.
-/
namespace Ezc3d.C03

/-- the zero padding after the last record: between 1 and 512 bytes (so the terminator is always there)
    and it ends exactly on a block boundary - for every position, hence every residue mod 512 -/
theorem padLen_spec (pos : Nat) : 1 ≤ padLen pos ∧ padLen pos ≤ 512 ∧ (pos + padLen pos) % 512 = 0 := by
  unfold padLen
  omega

/-- the section the writer produces: prologue, records, then only zeros (terminator + padding) up to a
    block boundary; the second byte is the 0x50 key, the fourth the processor type -/
theorem paramSection_shape (ph : PHeader) (gs : List Group) (base : Nat) (b : Bytes)
    (h : writeParamSection ph gs base = .ok b) :
    ∃ (gb : Bytes) (blocks : UInt8) (npad : Nat),
      b = [low8N ph.start, 0x50, blocks, 84] ++ gb ++ List.replicate npad 0 ∧
      1 ≤ npad ∧ npad ≤ 512 ∧ (base + b.length) % 512 = 0 := by
  unfold writeParamSection at h
  obtain ⟨⟨gb, slot⟩, -, h⟩ := Res.bind_ok_iff.mp h
  cases h
  obtain ⟨h1, h2, h3⟩ := padLen_spec (base + 4 + gb.length)
  -- the back-patch of POINT:DATA_START replaces one byte of the records: same length
  have hs (blk : UInt8) (gb' : Bytes) (hl : gb'.length = gb.length) :
      (base + ([low8N ph.start, 0x50, blk, 84] ++ gb' ++ List.replicate (padLen (base + 4 + gb.length)) 0).length) % 512 = 0 := by
    simp only [List.length_append, List.length_cons, List.length_nil, List.length_replicate, hl]
    rw [← h3]; congr 1; omega
  cases slot with
  | none => exact ⟨gb, _, _, rfl, h1, h2, hs _ gb rfl⟩
  | some o => exact ⟨gb.set o _, _, _, rfl, h1, h2, hs _ _ List.length_set⟩

/-- the block count computed for the prologue is the exact number of 512-byte blocks of the section, for every section length
    that is a whole number of blocks (the writer pads to one); the prologue holds its low byte -/
theorem blockCount_exact (n : Nat) (hn : 0 < n) (hal : n % 512 = 0) :
    ((n - 4) / 512 + (if (n - 4) % 512 > 0 then 1 else 0)) = n / 512 := by
  have : (n - 4) % 512 = 508 := by omega
  rw [this, if_pos (by decide)]
  omega

/-- every parameter record: name length (negative = locked), group id, upper-cased name, then the
    offset to the next record, which is exactly 2 + the number of bytes that follow it -/
theorem paramRecord_offset (p : Param) (gid : Int) (ip : Bool) (b : Bytes) (slot : Option Nat) (h : p.write gid ip = .ok (b, slot)) :
    ∃ rest : Bytes,
      b = [low8 (if p.locked then -(p.name.length : Int) else p.name.length), low8 gid] ++ toUpper p.name
            ++ le16 (2 + (rest.length : Int)) ++ rest := by
  unfold Param.write at h
  obtain ⟨⟨vals, sl⟩, -, h⟩ := Res.bind_ok_iff.mp h
  cases h
  refine ⟨[low8 p.type.code] ++ dimBytes p.dims ++ (vals ++ [low8N p.desc.length] ++ p.desc), ?_⟩
  have e (x y : Bytes) : (2 : Int) + (x.length : Int) + (y.length : Int) = 2 + ((x ++ y).length : Int) := by
    rw [List.length_append, Int.natCast_add, Int.add_assoc]
  rw [e]
  simp only [List.append_assoc]

theorem upperByte_toNat (a : UInt8) :
    (upperByte a).toNat = if 97 ≤ a.toNat ∧ a.toNat ≤ 122 then a.toNat - 32 else a.toNat := by
  unfold upperByte
  have e : (97 ≤ a ∧ a ≤ 122) ↔ (97 ≤ a.toNat ∧ a.toNat ≤ 122) := by
    rfl
  by_cases h : 97 ≤ a.toNat ∧ a.toNat ≤ 122
  · rw [if_pos (e.mpr h), if_pos h, UInt8.toNat_sub_of_le _ _ (UInt8.le_iff_toNat_le.mpr (by have := h.1; simp; omega))]; rfl
  · rw [if_neg (mt e.mp h), if_neg h]

/-- names are stored upper-case: no byte of a stored name is a lower-case ASCII letter -/
theorem toUpper_no_lower (s : Bytes) : ∀ b ∈ toUpper s, ¬ (97 ≤ b ∧ b ≤ 122) := by
  intro b hb
  obtain ⟨a, _, rfl⟩ := List.mem_map.mp hb
  rw [UInt8.le_iff_toNat_le, UInt8.le_iff_toNat_le, upperByte_toNat]
  show ¬ (97 ≤ _ ∧ _ ≤ 122)
  split <;> omega

theorem toUpper_length (s : Bytes) : (toUpper s).length = s.length := by simp [toUpper]

theorem toUpper_idem (s : Bytes) : toUpper (toUpper s) = toUpper s := by
  unfold toUpper
  rw [List.map_map]
  refine List.map_congr_left fun a _ => UInt8.toNat_inj.mp ?_
  show (upperByte (upperByte a)).toNat = (upperByte a).toNat
  rw [upperByte_toNat (upperByte a), upperByte_toNat a]
  by_cases h : 97 ≤ a.toNat ∧ a.toNat ≤ 122
  · rw [if_pos h, if_neg (by omega)]
  · rw [if_neg h, if_neg h]

theorem toUpper_eq_nil (s : Bytes) : toUpper s = [] ↔ s = [] := by
  unfold toUpper; simp

theorem toUpper_nz (s : Bytes) (h : ∀ x ∈ s, x ≠ 0) : ∀ x ∈ toUpper s, x ≠ 0 := by
  intro x hx h0
  obtain ⟨a, ha, rfl⟩ := List.mem_map.mp hx
  have ha0 : a.toNat ≠ 0 := fun e => h a ha (UInt8.toNat_inj.mp e)
  have := congrArg UInt8.toNat h0
  rw [upperByte_toNat] at this
  split at this <;> simp at this <;> omega

def HdrWF (h : Header) : Prop := h.evTimes.length = 18 ∧ h.evDisplay.length = 9 ∧ h.evLabels.length = 18

theorem length_flatten_map {α β} (f : α → List β) (k : Nat) (l : List α) (h : ∀ a ∈ l, (f a).length = k) :
    ((l.map f).flatten).length = k * l.length := by
  induction l with
  | nil => rfl
  | cons a t ih =>
    rw [List.map_cons, List.flatten_cons, List.length_append, h a (List.mem_cons_self ..),
      ih (fun x hx => h x (List.mem_cons_of_mem _ hx)), List.length_cons, Nat.mul_succ, Nat.add_comm]

theorem label4_length (s : Bytes) : (label4 s).length = 4 := by
  unfold label4
  rw [List.length_append, List.length_replicate]
  have := List.length_take_le 4 s
  omega

/-- the header is exactly one 512-byte block -/
theorem header_length (h : Header) (ds : Int) (hw : HdrWF h) : (h.write ds).length = 512 := by
  obtain ⟨h1, h2, h3⟩ := hw
  unfold Header.write
  simp only [List.length_append, List.length_cons, List.length_nil]
  rw [length_flatten_map f32le 4 _ (fun _ _ => rfl), length_flatten_map le16N 2 _ (fun _ _ => rfl),
      length_flatten_map label4 4 _ (fun a _ => label4_length a), h1, h2, h3]
  have e (n : Nat) (x : Int) : ((List.replicate n (le16 x)).flatten).length = n * 2 := by
    rw [List.length_flatten, List.map_replicate, List.sum_replicate_nat]; rfl
  rw [e, e]
  rfl

/-- data section: 4 floats per point, one per analog sample, frame after frame -/
theorem frame_length (f : Frame) : f.write.length = 16 * f.pts.length + 4 * (f.subs.map List.length).sum := by
  unfold Frame.write
  rw [List.length_append, length_flatten_map Point.write 16 _ (fun _ _ => rfl)]
  congr 1
  induction f.subs with
  | nil => simp
  | cons sf t ih =>
    simp only [List.map_cons, List.flatten_cons, List.length_append, List.sum_cons, Nat.mul_add]
    rw [ih, length_flatten_map (fun c : Channel => f32le c.v) 4 _ (fun _ _ => rfl)]

/-- the file: one header block, the parameter section (whole blocks), then the frames; the header's
    data-start word is the 1-based block that follows the section - for every section length -/
theorem file_layout (s : C3D) (b : Bytes) (hw : HdrWF s.hdr) (h : s.write = .ok b) :
    ∃ ps : Bytes, writeParamSection s.ph s.groups 512 = .ok ps ∧ ps.length % 512 = 0 ∧
      b = s.hdr.write (((512 + ps.length : Nat) : Int) / 512 + 1) ++ ps ++ writeData s.frames ∧
      b.length = 512 + ps.length + (writeData s.frames).length := by
  unfold C3D.write at h
  obtain ⟨ps, hp, h⟩ := Res.bind_ok_iff.mp h
  obtain ⟨gb, blk, npad, _, _, _, hal⟩ := paramSection_shape s.ph s.groups 512 ps hp
  have hb : b = s.hdr.write (((512 + ps.length : Nat) : Int) / 512 + 1) ++ ps ++ writeData s.frames :=
    (Res.ok.inj h).symm
  have hl := header_length s.hdr (((512 + ps.length : Nat) : Int) / 512 + 1) hw
  refine ⟨ps, hp, by omega, hb, ?_⟩
  rw [hb, List.length_append, List.length_append, hl]

end Ezc3d.C03
