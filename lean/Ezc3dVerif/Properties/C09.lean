import Ezc3dVerif.Proofs.Guarded
import Ezc3dVerif.Proofs.InsertLookup
import Ezc3dVerif.Properties.C11
/-
  C09 — parameter and group edits change exactly what was asked.
  `Parameter::set`: accepted exactly when the element count equals the product of the dimensions
  (empty data only with an empty or zero-sized shape), else range_error and the parameter untouched;
  `Group::parameter` / `c3d::parameter`: replace in place or append, nothing else moves.
-/
namespace Ezc3d.C09

theorem prod_zero_of_mem (l : List Nat) (h : 0 ∈ l) : l.prod = 0 :=
  List.prod_eq_zero_iff_exists_zero_nat.mpr ⟨0, h, rfl⟩

theorem prodMatches_iff (n : Nat) (dims : List Nat) (acc : Nat) (hpos : ∀ d ∈ dims, 0 < d) :
    prodMatches n dims acc = true ↔ n = acc * dims.prod := by
  induction dims generalizing acc with
  | nil => simp [prodMatches]
  | cons d rest ih =>
    have hd : 0 < d := hpos d (by simp)
    have hrest : ∀ x ∈ rest, 0 < x := fun x hx => hpos x (by simp [hx])
    rw [prodMatches, List.prod_cons, ← Nat.mul_assoc]
    split
    next hgt =>
      -- the loop stops early: n < acc·d ≤ acc·d·∏rest
      have h1 : n < acc * d := (Nat.div_lt_iff_lt_mul hd).mp hgt
      have h2 : acc * d ≤ acc * d * rest.prod := Nat.le_mul_of_pos_right _ (List.prod_pos_iff_forall_pos_nat.mpr hrest)
      simp; omega
    next => exact ih (acc * d) hrest

/-- `Parameter::set(data, dims)` is accepted exactly when the element count equals the product of
    the dimensions; empty data exactly with an empty or zero-sized shape. No overflow caveat. -/
theorem dimConsistent_iff (n : Nat) (dims : List Nat) :
    dimConsistent n dims = true ↔
      (n = 0 ∧ (dims = [] ∨ 0 ∈ dims)) ∨ (n ≠ 0 ∧ n = dims.prod) := by
  unfold dimConsistent
  by_cases hn : n = 0
  · simp [hn]
  · by_cases hz : 0 ∈ dims
    · have := prod_zero_of_mem dims hz
      simp [hn, hz]; omega
    · have hpos : ∀ d ∈ dims, 0 < d := fun d hd => Nat.pos_of_ne_zero fun h => hz (h ▸ hd)
      simp [hn, hz, prodMatches_iff n dims 1 hpos]

/-- integers: accepted iff consistent, then the parameter holds exactly the given type, values and
    (effective) dimensions; name, description and lock state are untouched -/
theorem setInts_ok_iff (p : Param) (data : List Int) (dims : List Nat) :
    (∃ p', p.setInts data dims = .ok p') ↔ dimConsistent data.length (effDims data.length dims) = true :=
  Res.guard_ok_iff

theorem setInts_ok (p p' : Param) (data : List Int) (dims : List Nat) (h : p.setInts data dims = .ok p') :
    p'.type = .int ∧ p'.ints = data ∧ p'.dims = effDims data.length dims ∧
    p'.name = p.name ∧ p'.desc = p.desc ∧ p'.locked = p.locked := by
  obtain ⟨_, rfl⟩ := Res.guard_eq_ok_iff.mp h
  exact ⟨rfl, rfl, rfl, rfl, rfl, rfl⟩

theorem setInts_refused (p : Param) (data : List Int) (dims : List Nat)
    (h : dimConsistent data.length (effDims data.length dims) = false) :
    p.setInts data dims = .throw .range_error := by
  unfold Param.setInts; simp [h]

theorem setFloats_ok_iff (p : Param) (data : List UInt32) (dims : List Nat) :
    (∃ p', p.setFloats data dims = .ok p') ↔ dimConsistent data.length (effDims data.length dims) = true :=
  Res.guard_ok_iff

theorem setFloats_refused (p : Param) (data : List UInt32) (dims : List Nat)
    (h : dimConsistent data.length (effDims data.length dims) = false) :
    p.setFloats data dims = .throw .range_error := by
  unfold Param.setFloats; simp [h]

theorem setStrs_ok_iff (p : Param) (data : List Bytes) (dims : List Nat) :
    (∃ p', p.setStrs data dims = .ok p') ↔ dimConsistent data.length (effDims data.length dims) = true :=
  Res.guard_ok_iff

/-- string values gain a leading dimension equal to the longest string -/
theorem setStrs_ok (p p' : Param) (data : List Bytes) (dims : List Nat) (h : p.setStrs data dims = .ok p') :
    p'.type = .char ∧ p'.strs = data ∧ p'.dims = maxLen data :: effDims data.length dims := by
  obtain ⟨_, rfl⟩ := Res.guard_eq_ok_iff.mp h
  exact ⟨rfl, rfl, rfl⟩

theorem foldl_maxLen_ge (l : List Bytes) (m : Nat) :
    m ≤ l.foldl (fun m s => if s.length > m then s.length else m) m ∧
    ∀ s ∈ l, s.length ≤ l.foldl (fun m s => if s.length > m then s.length else m) m := by
  induction l generalizing m with
  | nil => exact ⟨Nat.le_refl m, fun _ h => nomatch h⟩
  | cons a t ih =>
    obtain ⟨h1, h2⟩ := ih (if a.length > m then a.length else m)
    have hm : m ≤ (if a.length > m then a.length else m) ∧ a.length ≤ (if a.length > m then a.length else m) := by
      split
      · exact ⟨Nat.le_of_lt ‹_›, Nat.le_refl _⟩
      · exact ⟨Nat.le_refl _, Nat.le_of_not_lt ‹_›⟩
    exact ⟨Nat.le_trans hm.1 h1, List.forall_mem_cons.mpr ⟨Nat.le_trans hm.2 h1, h2⟩⟩

theorem maxLen_ge (data : List Bytes) : ∀ s ∈ data, s.length ≤ maxLen data := (foldl_maxLen_ge data 0).2

/-- `Group::parameter(p)`: an untyped parameter is refused -/
theorem addParam_untyped (g : Group) (p : Param) (h : p.type = .none) : g.addParam p = .throw .runtime_error := by
  rw [addParam_eq, if_pos h]

/-- … a parameter with a new name is appended, every existing parameter keeps its position -/
theorem addParam_append (g : Group) (p : Param) (ht : p.type ≠ .none) (hn : ∀ q ∈ g.params, q.name ≠ p.name) :
    g.addParam p = .ok { g with params := g.params ++ [p] } := by
  rw [addParam_eq, if_neg ht, Group.putParam, (nameIdx_eq_throw_iff.mp (C11.nameIdx_missing Param.name g.params p.name hn)).2]

/-- … a parameter whose name exists replaces the FIRST parameter of that name in place -/
theorem addParam_replace (g : Group) (p : Param) (ht : p.type ≠ .none) (i : Nat) (hi : i < g.params.length)
    (hname : g.params[i].name = p.name) (hfirst : ∀ j (hj : j < i), (g.params[j]'(by omega)).name ≠ p.name) :
    g.addParam p = .ok { g with params := g.params.set i p } := by
  have : g.params.findIdx? (fun q => q.name == p.name) = some i :=
    List.findIdx?_eq_some_iff_getElem.mpr ⟨hi, beq_iff_eq.mpr hname, fun j hj hc => hfirst j hj (beq_iff_eq.mp hc)⟩
  rw [addParam_eq, if_neg ht, Group.putParam, this]

/-- in both cases: afterwards looking the name up returns the given parameter, and the group's name,
    description and lock are unchanged -/
theorem addParam_lookup (g g' : Group) (p : Param) (h : g.addParam p = .ok g') :
    byName Param.name g'.params p.name = .ok p ∧ g'.name = g.name ∧ g'.desc = g.desc ∧ g'.locked = g.locked := by
  rw [addParam_eq] at h
  split at h; · cases h
  cases h
  refine ⟨by rw [byName_putParam, if_pos rfl], ?_⟩
  rw [putParam_eq]
  exact ⟨rfl, rfl, rfl⟩

/-- every other parameter is unchanged and keeps its position -/
theorem addParam_others (g g' : Group) (p : Param) (h : g.addParam p = .ok g') (j : Nat) (hj : j < g.params.length)
    (hne : g.params[j].name ≠ p.name) : g'.params[j]? = some g.params[j] := by
  rw [addParam_eq] at h
  split at h; · cases h
  cases h
  unfold Group.putParam
  split
  next i hi =>
    obtain ⟨_, hp, _⟩ := List.findIdx?_eq_some_iff_getElem.mp hi
    have hij : i ≠ j := by rintro rfl; exact hne (beq_iff_eq.mp hp)
    exact (List.getElem?_set_ne hij).trans (List.getElem?_eq_getElem hj)
  next => exact (List.getElem?_append_left hj).trans (List.getElem?_eq_getElem hj)

/-- locking or unlocking a group changes only that flag -/
theorem setGroupLock_ok (s s' : C3D) (name : Bytes) (v : Bool) (h : s.setGroupLock name v = .ok s') :
    ∃ gi, groupIdx s.groups name = .ok gi ∧
      s' = { s with groups := s.groups.modify gi fun g => { g with locked := v } } := by
  obtain ⟨gi, hgi, he⟩ := (setGroupLock_guarded s name v).of_ok h
  exact ⟨gi, hgi, Outcome.ok.inj (h.symm.trans he)⟩

theorem setGroupLock_unknown (s : C3D) (name : Bytes) (v : Bool) (h : ∀ g ∈ s.groups, g.name ≠ name) :
    s.setGroupLock name v = .throw .invalid_argument s := by
  rw [C3D.setGroupLock, groupIdx, C11.nameIdx_missing Group.name s.groups name h]
  rfl

example : dimConsistent 6 [2, 3] = true ∧ dimConsistent 6 [2, 2] = false ∧ dimConsistent 0 [3, 0] = true
    ∧ dimConsistent 0 [] = true ∧ dimConsistent 0 [2] = false := by decide
/-- the shapes whose product wraps to 0 in 32 or 64 bits are refused for empty data -/
example : dimConsistent 0 [128, 128, 128, 128, 128] = false ∧ dimConsistent 0 [4294967296, 4294967296] = false := by decide

end Ezc3d.C09
