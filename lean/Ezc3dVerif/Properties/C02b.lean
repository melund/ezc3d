import Ezc3dVerif.Properties.C02
import Ezc3dVerif.Proofs.SpecLayout
/-
  C02 (continued) — both decoders on the same file. `spec_decode_layout`: what the independent decoder of the C3D
  specification (Spec/Format.lean: positional access, follows only the file's own pointers, checks every record's offset)
  returns for the files of `C02.load_layout` — the flat record lists, where the loader returns an object (records folded
  into the group table by `applyRec`). `both_decoders_layout` puts the two side by side.
-/
namespace Ezc3d.C02
open N Spec

/-- THE INDEPENDENT DECODER ON A FILE OF ANY DECLARED LAYOUT (the header's data-start word naming the block after the
    parameter section, any two leading bytes of the section): `Spec.decode` finds exactly the header, the records in file
    order and the frames the file was built from, and nothing is left after the last frame. -/
theorem spec_decode_layout (h : Header) (Z pa ds nb : Nat) (p0 p1 : UInt8) (gap pad : Bytes) (rs : List Rec) (frames : List Frame)
    (hk : HdrOK h) (hds : ds < 65536) (hpa1 : 2 ≤ pa) (hpa2 : pa < 256) (hdsv : ds = pa + nb)
    (hgap : gap.length = 512 * (pa - 2)) (hv : ∀ r ∈ rs, r.Valid)
    (hsec : 4 + (recsBytes rs).length + 1 + pad.length = 512 * nb)
    (hne : ¬ (h.nbPoints = 0 ∧ h.nbAnalogs = 0)) (hnf : h.nbFrames = frames.length) (hnfs : frames.length ≤ 65536)
    (hshape : ∀ f ∈ frames, f.hasShape h.nbPoints h.nbAnalogByFrame h.nbAnalogs) :
    Spec.decode (List.replicate Z 0 ++ h.bytesP pa ds [] ++ gap ++ (p0 :: p1 :: low8N nb :: 84 :: (recsBytes rs ++ 0 :: pad)) ++ writeData frames) true
      = some (layoutContent h Z pa ds nb p0 p1 rs frames) := by
  have hfr := decodeFrames_written h.nbPoints h.nbAnalogByFrame h.nbAnalogs frames [] hshape
  rw [← spec_nframes h frames.length hk hne hnf hnfs] at hfr
  clear hne hnf hnfs hshape   -- every `omega` below would split cases on `hne`
  generalize hfile : List.replicate Z (0 : UInt8) ++ h.bytesP pa ds [] ++ gap ++ (p0 :: p1 :: low8N nb :: 84 :: (recsBytes rs ++ 0 :: pad))
    ++ writeData frames = b
  obtain ⟨hb0, pre, hpre, hbs, dD⟩ := layout_file h Z pa ds nb gap _ (writeData frames) hk hpa1 hgap
    (by simp only [List.length_cons, List.length_append]; omega) hfile.symm
  have d0 : b.drop (Z + 512 * (pa - 1)) = p0 :: p1 :: low8N nb :: 84 :: (recsBytes rs ++ 0 :: (pad ++ writeData frames)) := by
    rw [hbs, List.drop_left' hpre]; simp
  rw [← Nat.sub_add_comm (Nat.le_of_succ_le hpa1), ← hdsv] at dD
  rw [List.append_nil, ← dD] at hfr
  exact decode_of_parts b true Z (specHeaderP h pa ds) _ _ _ []
    (hz := by
      -- the first byte of the header record, the block number `pa`, is not 0
      rw [hb0]; unfold Header.bytesP; exact countZeros_replicate Z _ _ (fun hc => by
        have := congrArg UInt8.toNat hc; rw [low8N_toNat pa hpa2] at this; simp at this; omega))
    (hh := by rw [hb0]; exact decodeHeader_layout h Z pa ds _ hk hds hpa2)
    (hpb := show pa ≠ 0 by omega)
    (hpro := listAt_bytes_of_drop [p0, p1, low8N nb, 84] d0)
    (hrec := decodeRecords_section_of_drop rs hv (drop_succ (drop_succ (drop_succ (drop_succ d0)))))
    (hfl := Bool.or_true _) (hds := show ds ≠ 0 by omega) (hfr := hfr)

theorem specFrame_relabel (pl al : List Bytes) (f : Frame) : specFrame (relabelFrame pl al f) = specFrame f := by
  unfold specFrame relabelFrame
  simp only [relabelPts_map specPoint (fun _ _ => rfl), List.map_map, Function.comp_def, relabelChs_map (·.v) (fun _ _ => rfl)]

/-- LOADING A WELL-FORMED FILE YIELDS WHAT AN INDEPENDENT DECODER EXTRACTS FROM THE SAME BYTES: for every file of the declared
    layouts whose header data-start word names the block after the parameter section, the loader returns the object built
    from the file's records, the independent decoder returns the file's records, and the two agree on every header word
    and on every point and analog sample of every frame, bit for bit. -/
theorem both_decoders_layout (F : FloatOps) (h : Header) (Z pa ds nb : Nat) (zp : Bool) (gap pad : Bytes) (rs : List Rec) (frames : List Frame)
    (pl al : List Bytes) (hy : LayoutHyps F h Z pa ds nb gap pad rs frames pl al) (hdsv : ds = pa + nb)
    (hne : ¬ (h.nbPoints = 0 ∧ h.nbAnalogs = 0)) :
    ∃ (obj : C3D) (content : Spec.Content),
      C3D.load F (List.replicate Z 0 ++ h.bytesP pa ds [] ++ gap ++ ((if zp then 0 else low8N 1) :: (if zp then 0 else 0x50) :: low8N nb :: 84 ::
          (recsBytes rs ++ 0 :: pad)) ++ writeData frames) = .ok obj ∧
      Spec.decode (List.replicate Z 0 ++ h.bytesP pa ds [] ++ gap ++ ((if zp then 0 else low8N 1) :: (if zp then 0 else 0x50) :: low8N nb :: 84 ::
          (recsBytes rs ++ 0 :: pad)) ++ writeData frames) true = some content ∧
      obj.groups = rs.foldl applyRec [] ∧ content.groups = specGroupsR rs ∧ content.params = specParamsR rs ∧
      obj.frames.map specFrame = content.frames ∧
      specHeaderP obj.hdr obj.hdr.paramAddr obj.hdr.dataStart = content.header ∧
      content.leadingZeros = obj.hdr.zeros ∧ content.dataBytesLeft = 0 ∧ content.terminated = true := by
  have hl := load_layout F h Z pa ds nb zp gap pad rs frames pl al hy
  obtain ⟨hk, hds, hpa1, hpa2, _, _, hgap, hv, hsec, _, _, hnf, hnfs, _, _, _, _, hshape⟩ := hy
  have hs := spec_decode_layout h Z pa ds nb (if zp then 0 else low8N 1) (if zp then 0 else 0x50) gap pad rs frames
    hk hds hpa1 hpa2 hdsv hgap hv hsec hne hnf hnfs hshape
  -- `load_layout` and `spec_decode_layout` each return an explicit record (header `h.loadedAt Z pa ds`, groups the fold of
  -- `applyRec`; `layoutContent`), so all the clauses but the frames hold by `rfl`
  refine ⟨_, _, hl, hs, rfl, rfl, rfl, ?_, rfl, rfl, rfl, rfl⟩
  simp only [layoutContent, List.map_map, Function.comp_def, specFrame_relabel]

/-- non-vacuity: the example of C02 with the data-start word the format prescribes -/
theorem layout_example4 : LayoutHyps F1 h1 3 3 4 1 (List.replicate 512 0) pad1 rs1 frames1 [[76, 49]] [] := by decide +kernel

example : ∃ obj content, C3D.load F1 (List.replicate 3 0 ++ h1.bytesP 3 4 [] ++ List.replicate 512 0 ++
      ((if true then 0 else low8N 1) :: (if true then 0 else 0x50) :: low8N 1 :: 84 :: (recsBytes rs1 ++ 0 :: pad1)) ++ writeData frames1) = .ok obj ∧
    Spec.decode (List.replicate 3 0 ++ h1.bytesP 3 4 [] ++ List.replicate 512 0 ++
      ((if true then 0 else low8N 1) :: (if true then 0 else 0x50) :: low8N 1 :: 84 :: (recsBytes rs1 ++ 0 :: pad1)) ++ writeData frames1) true = some content ∧
    obj.frames.map specFrame = content.frames := by
  obtain ⟨obj, content, a, b, _, _, _, c, _⟩ := both_decoders_layout F1 h1 3 3 4 1 true (List.replicate 512 0) pad1 rs1 frames1 [[76, 49]] []
    layout_example4 rfl (by decide)
  exact ⟨obj, content, a, b, c⟩

end Ezc3d.C02
