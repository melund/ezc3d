import Ezc3dVerif.Model.Standalone
import Ezc3dVerif.Properties.C09
import Ezc3dVerif.Proofs.ByName
/-
  C09 (continued) — `Parameters::group(const Group&)`, the "group merge on duplicate group insertion" of the parameter classes
  used on their own: a group of a new name is appended; otherwise its parameters are stored one by one (replace in place or
  append) into the LAST stored group of that name, and nothing else moves.
-/
namespace Ezc3d.C09

theorem lastIdxAux_eq_none_iff (name : Bytes) : ∀ (gs : List Group) (i : Nat) (acc : Option Nat),
    lastIdxAux name gs i acc = none ↔ acc = none ∧ ∀ g ∈ gs, g.name ≠ name := by
  intro gs
  induction gs with
  | nil => intro i acc; simp [lastIdxAux]
  | cons a t ih =>
    intro i acc
    rw [lastIdxAux, ih, List.forall_mem_cons]
    by_cases ha : a.name = name
    · rw [if_pos (beq_iff_eq.mpr ha)]
      exact ⟨fun h => absurd h.1 (Option.some_ne_none i), fun h => absurd ha h.2.1⟩
    · rw [if_neg (fun hc => ha (beq_iff_eq.mp hc))]
      exact ⟨fun h => ⟨h.1, ha, h.2⟩, fun h => ⟨h.1, h.2.2⟩⟩

theorem lastIdxAux_none (name : Bytes) : ∀ (gs : List Group) (i : Nat), lastIdxAux name gs i none = none → ∀ g ∈ gs, g.name ≠ name :=
  fun gs i h => ((lastIdxAux_eq_none_iff name gs i none).mp h).2

/-- a group of a new name is appended; every stored group keeps its place and content -/
theorem addGroup_new (gs : List Group) (g : Group) (h : ∀ x ∈ gs, x.name ≠ g.name) : Parameters.addGroup gs g = .ok (gs ++ [g]) := by
  rw [Parameters.addGroup, lastGroupIdx, (lastIdxAux_eq_none_iff g.name gs 0 none).mpr ⟨rfl, h⟩]

/-- merging keeps the number of groups and touches only group `i`, whose name, description and lock flag stay -/
theorem mergeParams_frame (i : Nat) (ps : List Param) : ∀ (gs gs' : List Group), mergeParams gs i ps = .ok gs' →
    gs'.length = gs.length ∧ (∀ j, j ≠ i → gs'[j]? = gs[j]?) ∧
    (∀ g g', gs[i]? = some g → gs'[i]? = some g' → g'.name = g.name ∧ g'.desc = g.desc ∧ g'.locked = g.locked) := by
  induction ps with
  | nil =>
    intro gs gs' h
    cases h
    exact ⟨rfl, fun _ _ => rfl, fun g g' h1 h2 => by rw [h1] at h2; cases h2; exact ⟨rfl, rfl, rfl⟩⟩
  | cons p rest ih =>
    intro gs gs' h
    simp only [mergeParams] at h
    split at h
    next => cases h
    next grp hgrp =>
      split at h
      next grp' hadd =>
        obtain ⟨h1, h2, h3⟩ := ih _ gs' h
        obtain ⟨_, hn, hd, hl⟩ := addParam_lookup grp grp' p hadd
        have hlt : i < gs.length := by
          rcases Nat.lt_or_ge i gs.length with hh | hh
          · exact hh
          · rw [List.getElem?_eq_none hh] at hgrp; cases hgrp
        refine ⟨by rw [h1]; simp, ?_, ?_⟩
        · intro j hj; rw [h2 j hj, List.getElem?_set_ne (fun e => hj e.symm)]
        · intro g g' hg hg'
          rw [hgrp] at hg; cases hg
          obtain ⟨a, b, c⟩ := h3 grp' g' (by rw [List.getElem?_set_self hlt]) hg'
          exact ⟨by rw [a, hn], by rw [b, hd], by rw [c, hl]⟩
      next => cases h
      next => cases h

/-- a group whose parameters are all typed (every group built through `Group::parameter` is) merges without exception -/
theorem mergeParams_ok (i : Nat) (ps : List Param) (ht : ∀ p ∈ ps, p.type ≠ .none) : ∀ (gs : List Group), i < gs.length →
    ∃ gs', mergeParams gs i ps = .ok gs' := by
  induction ps with
  | nil => intro gs _; exact ⟨gs, rfl⟩
  | cons p rest ih =>
    intro gs hi
    simp only [mergeParams]
    rw [List.getElem?_eq_getElem hi]
    simp only
    rw [addParam_eq, if_neg (ht p List.mem_cons_self)]
    exact ih (fun q hq => ht q (List.mem_cons_of_mem _ hq)) _ (by rw [List.length_set]; exact hi)

/-- non-vacuity: merging {A: [x := int 1]} into [A: [x := int 0, y], B] replaces x in place and keeps y and B -/
example : Parameters.addGroup
      [{ name := [65], params := [{ name := [120], type := .int, dims := [1], ints := [0] }, { name := [121], type := .int, dims := [1], ints := [5] }] }, { name := [66] }]
      { name := [65], params := [{ name := [120], type := .int, dims := [1], ints := [1] }] }
    = .ok [{ name := [65], params := [{ name := [120], type := .int, dims := [1], ints := [1] }, { name := [121], type := .int, dims := [1], ints := [5] }] }, { name := [66] }] := by
  decide

end Ezc3d.C09
